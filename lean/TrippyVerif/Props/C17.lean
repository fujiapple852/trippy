import TrippyVerif.Model.TuiIO
import TrippyVerif.Props.C18
/-!
# C17 — the terminal UI never crashes; selections always refer to existing entries

Model: `TrippyVerif/Model/Tui.lean` (every `TuiApp` method, the per-frame prologue, the key
dispatch of `run_app`, the index expressions of the render functions).  The harness `tvh tui`
compares that model with the real `TuiApp` after every operation.

Two versions of the code are modelled behind the parameter `fx` (`Tui.codeIsFixed` for the driver):

* `fx = false`, the code as it stands: C17 is **false**.  `current_panics_a … f` are concrete
  operation sequences on which a method panics, `current_invalid_g` one on which nothing panics but
  the selected hop address refers to nothing (`current_code_panics`,
  `current_code_invalid_selection`).
* `fx = true`, the code after `/verif/tmp_patches/tui_selection.diff`: `no_panic_and_valid` — for
  every initial configuration and every interleaving of data updates (any well-formed state of any
  live tracer, no monotonicity assumed), keys (every command of the binding table, in every mode)
  and frames, no modelled method panics and the invariant `Inv` — hence `Valid` — holds after
  every operation.

The proofs are by invariant: `inv_init`, `step_ok`, lifted to sequences in `steps_ok`
(`expand_privacy` through `C18.expand_step`).

Modelling assumptions (checked by the harness / driver on every run):
* `Shape.WF` (= `Shape.wfB`, which the driver evaluates on every `data` request): the combined flow 0
  exists, a flow has at most 254 hops (`MAX_TTL`), the registry holds at most `max_flows` flows, and
  a non-empty registry contains flow 1 (ids are handed out from 1);
* `CfgOK`: what `TuiApp::new` receives.
Not modelled: the drawing code of ratatui (layout, widgets).  The harness draws every frame for real
at sizes 1x1 … 300x100 under `catch_unwind`.
-/
namespace TV.Props.C17
open TV.Tui

def Shape.WF (s : Shape) : Prop :=
  (findFlow s 0).isSome = true ∧
  (∀ f ∈ s.flows, f.hops.length ≤ 254) ∧
  (registry s).length ≤ s.maxFlows ∧
  (registry s ≠ [] → (findFlow s 1).isSome = true)

theorem Shape.WF.flow0 {s : Shape} (w : Shape.WF s) : (findFlow s 0).isSome = true := w.1

theorem Shape.WF.hops_le {s : Shape} (w : Shape.WF s) {f : FlowS} (hf : f ∈ s.flows) : f.hops.length ≤ 254 :=
  w.2.1 f hf

theorem Shape.WF.registry_le {s : Shape} (w : Shape.WF s) : (registry s).length ≤ s.maxFlows := w.2.2.1

theorem wfB_iff (s : Shape) : s.wfB = true ↔ Shape.WF s := by
  simp only [Shape.wfB, Shape.WF, Bool.and_eq_true, Bool.or_eq_true, List.all_eq_true, decide_eq_true_eq,
    List.isEmpty_iff, and_assoc, Decidable.or_iff_not_imp_left, ne_eq]

theorem wf_cleared (m : Nat) : Shape.WF (Shape.cleared m) :=
  ⟨rfl, by simp [Shape.cleared], by simp [registry, Shape.cleared], fun h => absurd rfl h⟩

theorem findFlow_mem {s : Shape} {id : Nat} {f : FlowS} (h : findFlow s id = some f) :
    f ∈ s.flows ∧ f.id = id :=
  ⟨List.mem_of_find?_eq_some h, by simpa using List.find?_some h⟩

theorem findFlow_isSome_of_mem {s : Shape} {f : FlowS} (h : f ∈ s.flows) :
    (findFlow s f.id).isSome = true :=
  List.find?_isSome.mpr ⟨f, h, beq_self_eq_true _⟩

theorem stateAt_of_present {s : Shape} {id : Nat} (h : (findFlow s id).isSome = true) :
    ∃ f, findFlow s id = some f ∧ stateAt s id = .ok f := by
  obtain ⟨f, hf⟩ := Option.isSome_iff_exists.mp h
  exact ⟨f, hf, by simp [stateAt, hf]⟩

theorem hopsForFlow_of_present {s : Shape} {id : Nat} (h : (findFlow s id).isSome = true) :
    ∃ f, findFlow s id = some f ∧ hopsForFlow s id = .ok f.hops := by
  obtain ⟨f, hf, hst⟩ := stateAt_of_present h
  exact ⟨f, hf, by simp [hopsForFlow, hst]⟩

theorem present_of_hopsForFlow {s : Shape} {id : Nat} {hs : List HopS} (h : hopsForFlow s id = .ok hs) :
    (findFlow s id).isSome = true :=
  Option.isSome_iff_ne_none.mpr fun hf => by simp [hopsForFlow, stateAt, hf] at h

theorem hops_len {s : Shape} (w : Shape.WF s) {id : Nat} {hs : List HopS}
    (h : hopsForFlow s id = .ok hs) : hs.length ≤ 254 := by
  obtain ⟨f, hf, hh⟩ := hopsForFlow_of_present (present_of_hopsForFlow h)
  cases hh.symm.trans h
  exact w.hops_le (findFlow_mem hf).1

theorem touchFlow_ok {s : Shape} {id : Nat} (h : (findFlow s id).isSome = true) : touchFlow s id = .ok () := by
  obtain ⟨f, -, hst⟩ := stateAt_of_present h
  simp [touchFlow, hst]

theorem mem_registry {s : Shape} {f : FlowS} : f ∈ registry s ↔ f ∈ s.flows ∧ f.id ≠ 0 := by
  simp [registry, List.mem_filter]

theorem insertFlow_perm (x : Nat × Nat) (l : List (Nat × Nat)) : (insertFlow x l).Perm (x :: l) := by
  induction l with
  | nil => exact .refl _
  | cons y ys ih =>
    unfold insertFlow
    split
    · exact .refl _
    · exact (ih.cons y).trans (.swap x y ys)

theorem sortFlows_perm (l : List (Nat × Nat)) : (sortFlows l).Perm l := by
  induction l with
  | nil => exact .refl _
  | cons x xs ih => exact (insertFlow_perm x _).trans (ih.cons x)

theorem findPos_eq (id : Nat) (l : List (Nat × Nat)) : findPos id l = l.findIdx? (·.1 == id) := by
  induction l with
  | nil => rfl
  | cons z zs ih => rw [findPos, List.findIdx?_cons, ih]

theorem findPos_isSome {id : Nat} {l : List (Nat × Nat)} : (findPos id l).isSome = true ↔ ∃ x ∈ l, x.1 = id := by
  simp only [findPos_eq, List.findIdx?_isSome, List.any_eq_true, beq_iff_eq]

theorem findPos_lt {id n : Nat} {l : List (Nat × Nat)} (h : findPos id l = some n) : n < l.length :=
  (List.findIdx?_eq_some_iff_findIdx_eq.mp (findPos_eq id l ▸ h)).1

theorem flowCountsOf_ok (s : Shape) : ∀ (l : List FlowS), (∀ f ∈ l, f ∈ s.flows) →
    ∃ cs, flowCountsOf s l = .ok cs ∧ cs.map (·.1) = l.map (·.id)
  | [], _ => ⟨[], rfl, rfl⟩
  | f :: fs, h => by
    obtain ⟨cs, hcs, hm⟩ := flowCountsOf_ok s fs (fun g hg => h g (List.mem_cons_of_mem _ hg))
    obtain ⟨g, -, hst⟩ := stateAt_of_present (findFlow_isSome_of_mem (h f (List.mem_cons_self ..)))
    exact ⟨(f.id, g.rounds) :: cs, by simp [flowCountsOf, roundCount, hst, hcs], by simp [hm]⟩

def DataOK (snap : Shape) (live : List Shape) (n t : Nat) : Prop :=
  Shape.WF snap ∧ (∀ sh ∈ live, Shape.WF sh) ∧ live.length = n ∧ t < n

def SelOK (snap : Shape) (flow : Nat) (sel : Option Nat) (addr : Nat) : Prop :=
  ∃ hs, hopsForFlow snap flow = .ok hs ∧ (∀ i, sel = some i → i < hs.length) ∧
    addr < max 1 (addrCountAt hs sel)

def FlowsOK (snap : Shape) (fc : List (Nat × Nat)) (flow : Nat) (showFlows : Bool) : Prop :=
  (∀ x ∈ fc, x.1 ≠ 0 ∧ (findFlow snap x.1).isSome = true) ∧
  (∀ f ∈ registry snap, (findPos f.id fc).isSome = true) ∧
  (showFlows = true → flow ≠ 0)

/-- the number of items the code assumes for a settings tab (`get_settings_items_count`) -/
def itemCount (tab ncols : Nat) (declared : List Nat) : Nat :=
  if tab = 6 then ncols else declared[tab]?.getD 0

/-- `declared`: the item counts of `settings_tabs()`, `actual`: what is rendered; tab 6 lists the columns -/
def SetOK (tab : Nat) (item : Option Nat) (ncols : Nat) (declared actual : List Nat) : Prop :=
  tab < 7 ∧ declared.length = 7 ∧ actual.length = 7 ∧
  (∀ t, t < 6 → 0 < declared[t]?.getD 0 ∧ declared[t]?.getD 0 ≤ actual[t]?.getD 0) ∧ 0 < ncols ∧
  (∀ i, item = some i → i < itemCount tab ncols declared)

/-- `max_addrs` is a bound of `clamp(1, _)`, `zoom_factor` a divisor, the privacy ttl a `u8` -/
def MiscOK (maxAddrs : Option Nat) (zoom : Nat) (privacy : Option Nat) : Prop :=
  maxAddrs ≠ some 0 ∧ 1 ≤ zoom ∧ (∀ p, privacy = some p → p ≤ 255)

def Inv (s : Sys) : Prop :=
  DataOK s.app.snap s.live s.app.nTraces s.app.traceSelected ∧
  SelOK s.app.snap s.app.selectedFlow s.app.selected s.app.selectedHopAddress ∧
  FlowsOK s.app.snap s.app.flowCounts s.app.selectedFlow s.app.showFlows ∧
  SetOK s.app.settingsTabSelected s.app.settingSelected s.app.columns.length s.app.declared s.app.actual ∧
  MiscOK s.app.maxAddrs s.app.zoom s.app.privacy

def Good (l : List Shape) (r : R App) : Prop := ∃ a', r = .ok a' ∧ Inv ⟨a', l⟩

section conjuncts
variable {snap : Shape} {live : List Shape} {n t : Nat}

theorem DataOK.snapWF (h : DataOK snap live n t) : Shape.WF snap := h.1
theorem DataOK.liveWF (h : DataOK snap live n t) : ∀ sh ∈ live, Shape.WF sh := h.2.1
theorem DataOK.liveLen (h : DataOK snap live n t) : live.length = n := h.2.2.1
theorem DataOK.trace_lt (h : DataOK snap live n t) : t < n := h.2.2.2

theorem DataOK.setSnap (h : DataOK snap live n t) {snap' : Shape} (w : Shape.WF snap') : DataOK snap' live n t :=
  ⟨w, h.2⟩
theorem DataOK.setLive (h : DataOK snap live n t) {live' : List Shape} (hw : ∀ sh ∈ live', Shape.WF sh)
    (hl : live'.length = n) : DataOK snap live' n t := ⟨h.1, hw, hl, h.2.2.2⟩
theorem DataOK.setTrace (h : DataOK snap live n t) {t' : Nat} (ht : t' < n) : DataOK snap live n t' :=
  ⟨h.1, h.2.1, h.2.2.1, ht⟩

variable {fc : List (Nat × Nat)} {flow : Nat} {sf : Bool}

theorem FlowsOK.listed (h : FlowsOK snap fc flow sf) {x : Nat × Nat} (hx : x ∈ fc) :
    x.1 ≠ 0 ∧ (findFlow snap x.1).isSome = true := h.1 x hx

theorem FlowsOK.complete (h : FlowsOK snap fc flow sf) {f : FlowS} (hf : f ∈ registry snap) :
    (findPos f.id fc).isSome = true := h.2.1 f hf

theorem FlowsOK.flow_ne_zero (h : FlowsOK snap fc flow sf) : sf = true → flow ≠ 0 := h.2.2

theorem FlowsOK.reselect (h : FlowsOK snap fc flow sf) {flow' : Nat} {sf' : Bool} (h0 : sf' = true → flow' ≠ 0) :
    FlowsOK snap fc flow' sf' := ⟨h.1, h.2.1, h0⟩

variable {tab ncols : Nat} {item : Option Nat} {declared actual : List Nat}

theorem SetOK.tab_lt (h : SetOK tab item ncols declared actual) : tab < 7 := h.1
theorem SetOK.declLen (h : SetOK tab item ncols declared actual) : declared.length = 7 := h.2.1
theorem SetOK.counts (h : SetOK tab item ncols declared actual) {t : Nat} (ht : t < 6) :
    0 < declared[t]?.getD 0 ∧ declared[t]?.getD 0 ≤ actual[t]?.getD 0 := h.2.2.2.1 t ht
theorem SetOK.cols_pos (h : SetOK tab item ncols declared actual) : 0 < ncols := h.2.2.2.2.1
theorem SetOK.item_lt (h : SetOK tab item ncols declared actual) :
    ∀ i, item = some i → i < itemCount tab ncols declared := h.2.2.2.2.2

theorem SetOK.reselect (h : SetOK tab item ncols declared actual) {tab' : Nat} {item' : Option Nat} (ht : tab' < 7)
    (hi : ∀ i, item' = some i → i < itemCount tab' ncols declared) : SetOK tab' item' ncols declared actual :=
  ⟨ht, h.2.1, h.2.2.1, h.2.2.2.1, h.2.2.2.2.1, hi⟩

theorem itemCount_columns (h6 : tab = 6) : itemCount tab ncols declared = ncols := if_pos h6

theorem itemCount_pos (h : SetOK tab item ncols declared actual) : 0 < itemCount tab ncols declared := by
  unfold itemCount
  split
  · exact h.cols_pos
  · have := h.tab_lt
    exact (h.counts (by omega)).1

theorem SetOK.setItem (h : SetOK tab item ncols declared actual) {j : Nat} (hj : j < itemCount tab ncols declared) :
    SetOK tab (some j) ncols declared actual :=
  h.reselect h.tab_lt fun _ hi => Option.some.inj hi ▸ hj

theorem SetOK.tab0 (h : SetOK tab item ncols declared actual) {tab' : Nat} (ht : tab' < 7) :
    SetOK tab' (some 0) ncols declared actual :=
  have h' : SetOK tab' none ncols declared actual := h.reselect ht nofun
  h'.setItem (itemCount_pos h')

variable {m : Option Nat} {z : Nat} {p : Option Nat}

theorem MiscOK.maxAddrs_ne (h : MiscOK m z p) : m ≠ some 0 := h.1
theorem MiscOK.zoom_pos (h : MiscOK m z p) : 1 ≤ z := h.2.1
theorem MiscOK.privacy_le (h : MiscOK m z p) : ∀ q, p = some q → q ≤ 255 := h.2.2

theorem MiscOK.setMaxAddrs (h : MiscOK m z p) {m' : Option Nat} (hm : m' ≠ some 0) : MiscOK m' z p := ⟨hm, h.2⟩
theorem MiscOK.setZoom (h : MiscOK m z p) {z' : Nat} (hz : 1 ≤ z') : MiscOK m z' p := ⟨h.1, hz, h.2.2⟩
theorem MiscOK.setPrivacy (h : MiscOK m z p) {p' : Option Nat} (hp : ∀ q, p' = some q → q ≤ 255) : MiscOK m z p' :=
  ⟨h.1, h.2.1, hp⟩

variable {a : App} {l : List Shape}

theorem Inv.dataOK (h : Inv ⟨a, l⟩) : DataOK a.snap l a.nTraces a.traceSelected := h.1
theorem Inv.selOK (h : Inv ⟨a, l⟩) : SelOK a.snap a.selectedFlow a.selected a.selectedHopAddress := h.2.1
theorem Inv.flowsOK (h : Inv ⟨a, l⟩) : FlowsOK a.snap a.flowCounts a.selectedFlow a.showFlows := h.2.2.1
theorem Inv.setOK (h : Inv ⟨a, l⟩) :
    SetOK a.settingsTabSelected a.settingSelected a.columns.length a.declared a.actual := h.2.2.2.1
theorem Inv.miscOK (h : Inv ⟨a, l⟩) : MiscOK a.maxAddrs a.zoom a.privacy := h.2.2.2.2

end conjuncts

theorem SelOK.clear {snap flow sel addr} (h : SelOK snap flow sel addr) : SelOK snap flow none 0 := by
  obtain ⟨hs, h1, _, _⟩ := h
  exact ⟨hs, h1, nofun, Nat.le_max_left 1 _⟩

theorem SelOK.hop {snap : Shape} {flow : Nat} {hs : List HopS} {j : Nat} (hh : hopsForFlow snap flow = .ok hs)
    (hj : j < hs.length) : SelOK snap flow (some j) 0 :=
  ⟨hs, hh, fun i hi => by cases hi; exact hj, Nat.le_max_left 1 _⟩

theorem SelOK.present {snap flow sel addr} (h : SelOK snap flow sel addr) : (findFlow snap flow).isSome = true := by
  obtain ⟨hs, h1, _, _⟩ := h
  exact present_of_hopsForFlow h1

theorem flow_in_counts {snap fc flow sf sel addr} (hf : FlowsOK snap fc flow sf) (hs : SelOK snap flow sel addr)
    (h : sf = true) : (findPos flow fc).isSome = true := by
  obtain ⟨f, hfl⟩ := Option.isSome_iff_exists.mp hs.present
  obtain ⟨hm, rfl⟩ := findFlow_mem hfl
  exact hf.complete (mem_registry.mpr ⟨hm, hf.flow_ne_zero h⟩)

/-- `next_hop`, `next_settings_item` (the bound stands right of the colon, or `match` would generalise over it) -/
theorem stepUp_lt {n : Nat} {sel : Option Nat} (hn : n ≠ 0) : (∀ i, sel = some i → i < n) →
    (match sel with | some i => if i < n - 1 then i + 1 else i | none => 0) < n := by
  intro h
  split
  · have := h _ rfl
    split <;> omega
  · exact Nat.pos_of_ne_zero hn

/-- `previous_hop`, `previous_settings_item` -/
theorem stepDown_lt {n : Nat} {sel : Option Nat} (hn : n ≠ 0) : (∀ i, sel = some i → i < n) →
    (match sel with | some i => if i > 0 then i - 1 else i | none => n - 1) < n := by
  intro h
  split
  · have := h _ rfl
    split <;> omega
  · exact Nat.sub_one_lt hn

theorem clampFlow_spec {snap : Shape} (w : Shape.WF snap) (x : SelSt) (h0 : x.showFlows = true → x.flow ≠ 0) :
    (findFlow snap (clampFlow snap x).flow).isSome = true ∧
      ((clampFlow snap x).showFlows = true → (clampFlow snap x).flow ≠ 0) := by
  unfold clampFlow
  split
  · exact ⟨w.flow0, nofun⟩
  · rename_i hc
    refine ⟨?_, h0⟩
    simp only [Bool.and_eq_true, bne_iff_ne, ne_eq, Option.isNone_iff_eq_none, not_and] at hc
    by_cases hz : x.flow = 0
    · rw [hz]
      exact w.flow0
    · exact Option.isSome_iff_ne_none.mpr (hc hz)

theorem clampSel_eq (n : Nat) (x : SelSt) :
    ∃ sel addr, clampSel n x = { x with sel := sel, addr := addr } ∧ ∀ i, sel = some i → i < n := by
  fun_cases clampSel n x with
  | case1 hs => exact ⟨x.sel, x.addr, rfl, fun i hi => by rw [hs] at hi; cases hi⟩
  | case2 => exact ⟨none, 0, rfl, nofun⟩
  | case3 s hs hn hgt =>
    have hn' : n ≠ 0 := by simpa using hn
    exact ⟨some (n - 1), 0, rfl, fun i hi => by cases hi; omega⟩
  | case4 s hs hn hle =>
    have hn' : n ≠ 0 := by simpa using hn
    refine ⟨x.sel, x.addr, rfl, fun i hi => ?_⟩
    rw [hs] at hi
    cases hi
    omega

theorem clampAddr_eq (hs : List HopS) (x : SelSt) :
    ∃ addr, clampAddr hs x = { x with addr := addr } ∧ addr < max 1 (addrCountAt hs x.sel) := by
  unfold clampAddr
  split
  · exact ⟨0, rfl, Nat.le_max_left 1 _⟩
  · rename_i h
    exact ⟨x.addr, rfl, Nat.lt_of_not_le h⟩

theorem clampCore_spec {snap : Shape} (w : Shape.WF snap) (x : SelSt) (h0 : x.showFlows = true → x.flow ≠ 0) :
    ∃ y, clampCore snap x = .ok y ∧ SelOK snap y.flow y.sel y.addr ∧ (y.showFlows = true → y.flow ≠ 0) := by
  obtain ⟨hp, hsf⟩ := clampFlow_spec w x h0
  obtain ⟨f, -, hh⟩ := hopsForFlow_of_present hp
  obtain ⟨sel, ad, e2, hlt⟩ := clampSel_eq f.hops.length (clampFlow snap x)
  obtain ⟨addr, e3, had⟩ := clampAddr_eq f.hops (clampSel f.hops.length (clampFlow snap x))
  refine ⟨clampAddr f.hops (clampSel f.hops.length (clampFlow snap x)), by simp [clampCore, hh], ?_⟩
  rw [e2] at had
  rw [e3, e2]
  exact ⟨⟨f.hops, hh, hlt, had⟩, hsf⟩

theorem clampSelectedHop_spec {a : App} (w : Shape.WF a.snap) (h0 : a.showFlows = true → a.selectedFlow ≠ 0) :
    ∃ y : SelSt,
      clampSelectedHop true a =
        .ok { a with selectedFlow := y.flow, showFlows := y.showFlows, selected := y.sel, selectedHopAddress := y.addr } ∧
      SelOK a.snap y.flow y.sel y.addr ∧ (y.showFlows = true → y.flow ≠ 0) := by
  obtain ⟨y, hy, h⟩ := clampCore_spec w ⟨a.selectedFlow, a.showFlows, a.selected, a.selectedHopAddress⟩ h0
  exact ⟨y, by simp [clampSelectedHop, hy], h⟩

section handlers
variable {a : App} {l : List Shape}

theorem good_ok {a' : App} (h : Inv ⟨a', l⟩) : Good l (.ok a') := ⟨a', rfl, h⟩

/-! A handler rewrites the fields of one component of `Inv`; the others do not mention them. -/

theorem Inv.sel (h : Inv ⟨a, l⟩) {sel : Option Nat} {addr : Nat} (hs : SelOK a.snap a.selectedFlow sel addr) :
    Inv ⟨{ a with selected := sel, selectedHopAddress := addr }, l⟩ :=
  ⟨h.dataOK, hs, h.flowsOK, h.setOK, h.miscOK⟩

theorem Inv.set (h : Inv ⟨a, l⟩) {tab : Nat} {item : Option Nat} {cols : List (Char × Bool)}
    (hs : SetOK tab item cols.length a.declared a.actual) :
    Inv ⟨{ a with settingsTabSelected := tab, settingSelected := item, columns := cols }, l⟩ :=
  ⟨h.dataOK, h.selOK, h.flowsOK, hs, h.miscOK⟩

theorem Inv.misc (h : Inv ⟨a, l⟩) {m : Option Nat} {z : Nat} {p : Option Nat} (hm : MiscOK m z p) :
    Inv ⟨{ a with maxAddrs := m, zoom := z, privacy := p }, l⟩ :=
  ⟨h.dataOK, h.selOK, h.flowsOK, h.setOK, hm⟩

/-- `next_trace`, `previous_trace` -/
theorem Inv.trace (h : Inv ⟨a, l⟩) {t : Nat} (ht : t < a.nTraces) : Inv ⟨clearSel { a with traceSelected := t }, l⟩ :=
  ⟨h.dataOK.setTrace ht, h.selOK.clear, h.flowsOK, h.setOK, h.miscOK⟩

theorem Inv.flow (h : Inv ⟨a, l⟩) {flow : Nat} {sf : Bool} {sel : Option Nat} {addr : Nat}
    (hs : SelOK a.snap flow sel addr) (h0 : sf = true → flow ≠ 0) :
    Inv ⟨{ a with selectedFlow := flow, showFlows := sf, selected := sel, selectedHopAddress := addr }, l⟩ :=
  ⟨h.dataOK, hs, h.flowsOK.reselect h0, h.setOK, h.miscOK⟩

theorem Inv.live (h : Inv ⟨a, l⟩) {l' : List Shape} (hw : ∀ sh ∈ l', Shape.WF sh) (hl : l'.length = a.nTraces) :
    Inv ⟨a, l'⟩ :=
  ⟨h.dataOK.setLive hw hl, h.selOK, h.flowsOK, h.setOK, h.miscOK⟩

theorem Inv.snap (h : Inv ⟨a, l⟩) {snap : Shape} {flow : Nat} {sf : Bool} {sel : Option Nat} {addr : Nat}
    {fc : List (Nat × Nat)} (w : Shape.WF snap) (hs : SelOK snap flow sel addr) (hf : FlowsOK snap fc flow sf) :
    Inv ⟨{ a with snap := snap, selectedFlow := flow, showFlows := sf, selected := sel, selectedHopAddress := addr,
                  flowCounts := fc }, l⟩ :=
  ⟨h.dataOK.setSnap w, hs, hf, h.setOK, h.miscOK⟩

theorem Inv.columns (h : Inv ⟨a, l⟩) (h6 : a.settingsTabSelected = 6) {cs : List (Char × Bool)}
    (hl : cs.length = a.columns.length) {j : Nat} (hj : j < a.columns.length) :
    Inv ⟨{ a with columns := cs, settingSelected := some j }, l⟩ :=
  h.set (hl ▸ h.setOK.setItem (by rwa [itemCount_columns h6]))

theorem good_reselect (h : Inv ⟨a, l⟩) {flow : Nat} {sf : Bool} {addr : Nat} (h0 : sf = true → flow ≠ 0) :
    Good l (clampSelectedHop true { a with selectedFlow := flow, showFlows := sf, selectedHopAddress := addr }) := by
  obtain ⟨y, hy, hsel, hsf⟩ := clampSelectedHop_spec
    (a := { a with selectedFlow := flow, showFlows := sf, selectedHopAddress := addr }) h.dataOK.snapWF h0
  exact ⟨_, hy, h.flow hsel hsf⟩

theorem inv_clearSel (h : Inv ⟨a, l⟩) : Inv ⟨clearSel a, l⟩ := h.sel h.selOK.clear

theorem good_nextHop (h : Inv ⟨a, l⟩) : Good l (nextHop a) := by
  obtain ⟨hs, hh, hlt, -⟩ := h.selOK
  unfold nextHop
  simp only [hh, R.bind_ok, R.pure_eq]
  split
  · exact good_ok h
  · rename_i hne
    exact good_ok (h.sel (SelOK.hop hh (stepUp_lt (by simpa using hne) hlt)))

theorem good_previousHop (h : Inv ⟨a, l⟩) : Good l (previousHop a) := by
  obtain ⟨hs, hh, hlt, -⟩ := h.selOK
  unfold previousHop
  simp only [hh, R.bind_ok, R.pure_eq]
  split
  · exact good_ok h
  · rename_i hne
    exact good_ok (h.sel (SelOK.hop hh (stepDown_lt (by simpa using hne) hlt)))

theorem inv_nextTrace (h : Inv ⟨a, l⟩) : Inv ⟨nextTrace a, l⟩ := by
  unfold nextTrace
  split
  · rename_i hc
    simp only [Bool.and_eq_true, decide_eq_true_eq] at hc
    exact h.trace (by omega)
  · exact h

theorem inv_previousTrace (h : Inv ⟨a, l⟩) : Inv ⟨previousTrace a, l⟩ := by
  unfold previousTrace
  split
  · have := h.dataOK.trace_lt
    exact h.trace (by omega)
  · exact h

theorem selectedHop_eq {hs : List HopS} (hh : hopsForFlow a.snap a.selectedFlow = .ok hs)
    (hlt : ∀ i, a.selected = some i → i < hs.length) : selectedHop a = .ok (a.selected.bind (hs[·]?)) := by
  unfold selectedHop
  cases hsel : a.selected with
  | none => rfl
  | some i => simp [hh, hlt i hsel]

theorem addrCountAt_of_hop {hs : List HopS} {sel : Option Nat} {hop : HopS} (h : sel.bind (hs[·]?) = some hop) :
    addrCountAt hs sel = hop.addrs := by
  cases sel with
  | none => cases h
  | some i => simp only [addrCountAt, show hs[i]? = some hop from h]

theorem good_nextHopAddress (h : Inv ⟨a, l⟩) : Good l (nextHopAddress true a) := by
  obtain ⟨hs, hh, hl, -⟩ := h.selOK
  unfold nextHopAddress
  simp only [selectedHop_eq hh hl, R.bind_ok, R.pure_eq]
  cases ho : a.selected.bind (hs[·]?) with
  | none => exact good_ok h
  | some hop =>
    simp only [Bool.not_true, Bool.false_and, Bool.false_eq_true, ↓reduceIte]
    split
    · refine good_ok (h.sel ⟨hs, hh, hl, ?_⟩)
      rw [addrCountAt_of_hop ho]
      exact Nat.lt_of_lt_of_le (by omega) (Nat.le_max_right ..)
    · exact good_ok h

theorem good_previousHopAddress (h : Inv ⟨a, l⟩) : Good l (previousHopAddress a) := by
  obtain ⟨hs, hh, hl, had⟩ := h.selOK
  unfold previousHopAddress
  simp only [selectedHop_eq hh hl, R.bind_ok, R.pure_eq]
  cases a.selected.bind (hs[·]?) with
  | none => exact good_ok h
  | some hop =>
    dsimp only
    split
    · exact good_ok (h.sel ⟨hs, hh, hl, by omega⟩)
    · exact good_ok h

theorem good_toggleFlows (h : Inv ⟨a, l⟩) : Good l (toggleFlows true a) := by
  unfold toggleFlows
  simp only [↓reduceIte]
  split
  · split
    · exact good_reselect h nofun
    · split
      · exact good_reselect h (fun _ => Nat.one_ne_zero)
      · exact good_ok h
  · exact good_ok h

theorem good_nextFlow (h : Inv ⟨a, l⟩) : Good l (nextFlow true a) := by
  unfold nextFlow
  simp only [↓reduceIte]
  split
  · rename_i hshow
    obtain ⟨cur, hp⟩ := Option.isSome_iff_exists.mp (flow_in_counts h.flowsOK h.selOK hshow)
    rw [hp]
    dsimp only
    split
    · have hlt : cur + 1 < a.flowCounts.length := by omega
      rw [List.getElem?_eq_getElem hlt]
      exact good_reselect h (fun _ => (h.flowsOK.listed (List.getElem_mem hlt)).1)
    · exact good_ok h
  · exact good_ok h

theorem good_previousFlow (h : Inv ⟨a, l⟩) : Good l (previousFlow true a) := by
  unfold previousFlow
  simp only [↓reduceIte]
  split
  · rename_i hshow
    obtain ⟨cur, hp⟩ := Option.isSome_iff_exists.mp (flow_in_counts h.flowsOK h.selOK hshow)
    rw [hp]
    dsimp only
    have hcur := findPos_lt hp
    split
    · have hlt : cur - 1 < a.flowCounts.length := by omega
      rw [List.getElem?_eq_getElem hlt]
      exact good_reselect h (fun _ => (h.flowsOK.listed (List.getElem_mem hlt)).1)
    · exact good_ok h
  · exact good_ok h

theorem good_expandPrivacy (h : Inv ⟨a, l⟩) : Good l (expandPrivacy a) := by
  obtain ⟨hs, hh, -, -⟩ := h.selOK
  obtain ⟨q, hq, -, -, hle⟩ := C18.expand_step a hs hh (hops_len h.dataOK.snapWF hh)
  -- `hle`: the new setting is in the range of `u8`, or it is the present one
  exact ⟨_, hq, h.misc (h.miscOK.setPrivacy fun n hn => (hle n hn).elim id fun e => h.miscOK.privacy_le n (e ▸ hn))⟩

theorem inv_contractPrivacy (h : Inv ⟨a, l⟩) : Inv ⟨contractPrivacy a, l⟩ := by
  unfold contractPrivacy
  split
  · rename_i p hpe
    have := h.miscOK.privacy_le p hpe
    split
    · exact h.misc (h.miscOK.setPrivacy fun q hq => by cases hq; omega)
    · exact h.misc (h.miscOK.setPrivacy nofun)
  · exact h

theorem maxHosts_spec (hsel : SelOK a.snap a.selectedFlow a.selected a.selectedHopAddress) :
    ∃ m, maxHosts true a = .ok m ∧ ∀ k, m = some k → 0 < k ∧ k ≤ 255 := by
  obtain ⟨hs, hh, _, _⟩ := hsel
  unfold maxHosts
  simp only [hh, R.bind_ok, R.pure_eq]
  split
  · exact ⟨none, rfl, nofun⟩
  · refine ⟨_, rfl, fun k hk => ?_⟩
    simp only [Option.ite_none_left_eq_some, Option.some.injEq, Bool.true_and, beq_iff_eq] at hk
    omega

theorem optLt_some {i : Nat} {m : Option Nat} : optLt (some i) m = true ↔ ∃ k, m = some k ∧ i < k := by
  cases m <;> simp [optLt]

theorem good_expandHosts (h : Inv ⟨a, l⟩) : Good l (expandHosts true a) := by
  unfold expandHosts
  split
  · exact good_ok (h.misc (h.miscOK.setMaxAddrs (by simp)))
  · obtain ⟨m, hmx, hk⟩ := maxHosts_spec h.selOK
    simp only [hmx, R.bind_ok, R.pure_eq]
    split
    · rename_i hlt
      obtain ⟨k, rfl, hik⟩ := optLt_some.mp hlt
      have := hk k rfl
      rw [if_pos (by omega)]
      exact good_ok (h.misc (h.miscOK.setMaxAddrs (by simp)))
    · exact good_ok h

theorem good_expandHostsMax (h : Inv ⟨a, l⟩) : Good l (expandHostsMax true a) := by
  obtain ⟨m, hmx, hk⟩ := maxHosts_spec h.selOK
  unfold expandHostsMax
  simp only [hmx, R.bind_ok, R.pure_eq]
  exact good_ok (h.misc (h.miscOK.setMaxAddrs fun h0 => absurd (hk 0 h0).1 (Nat.lt_irrefl 0)))

theorem inv_contractHosts (h : Inv ⟨a, l⟩) : Inv ⟨contractHosts a, l⟩ := by
  unfold contractHosts
  split
  · split
    · exact h.misc (h.miscOK.setMaxAddrs (by simp; omega))
    · exact h.misc (h.miscOK.setMaxAddrs (by simp))
  · exact h

theorem inv_contractHostsMin (h : Inv ⟨a, l⟩) : Inv ⟨contractHostsMin a, l⟩ :=
  h.misc (h.miscOK.setMaxAddrs (by simp))

theorem inv_toggleHopDetails (h : Inv ⟨a, l⟩) : Inv ⟨toggleHopDetails a, l⟩ := by
  refine h.misc (m := if a.showHopDetails then none else some 1) (h.miscOK.setMaxAddrs ?_)
  split <;> simp

theorem inv_zoomIn (h : Inv ⟨a, l⟩) : Inv ⟨zoomIn a, l⟩ := by
  have := h.miscOK.zoom_pos
  unfold zoomIn
  split
  · exact h.misc (h.miscOK.setZoom (by omega))
  · exact h

theorem inv_zoomOut (h : Inv ⟨a, l⟩) : Inv ⟨zoomOut a, l⟩ := by
  have := h.miscOK.zoom_pos
  unfold zoomOut
  split
  · exact h.misc (h.miscOK.setZoom (by omega))
  · exact h

theorem inv_toggleHelp (h : Inv ⟨a, l⟩) : Inv ⟨toggleHelp a, l⟩ := h
theorem inv_toggleSettings (h : Inv ⟨a, l⟩) : Inv ⟨toggleSettings a, l⟩ := h
theorem inv_toggleFreeze (h : Inv ⟨a, l⟩) : Inv ⟨toggleFreeze a, l⟩ := h
theorem inv_toggleChart (h : Inv ⟨a, l⟩) : Inv ⟨toggleChart a, l⟩ := h
theorem inv_toggleMap (h : Inv ⟨a, l⟩) : Inv ⟨toggleMap a, l⟩ := h

theorem inv_nextSettingsTab (h : Inv ⟨a, l⟩) : Inv ⟨nextSettingsTab a, l⟩ := by
  refine h.set (h.setOK.tab0 ?_)
  have := h.setOK.tab_lt
  show (if a.settingsTabSelected < 6 then a.settingsTabSelected + 1 else a.settingsTabSelected) < 7
  split <;> omega

theorem inv_previousSettingsTab (h : Inv ⟨a, l⟩) : Inv ⟨previousSettingsTab a, l⟩ := by
  refine h.set (h.setOK.tab0 ?_)
  have := h.setOK.tab_lt
  show (if a.settingsTabSelected > 0 then a.settingsTabSelected - 1 else a.settingsTabSelected) < 7
  split <;> omega

theorem inv_showSettingsColumns (h : Inv ⟨a, l⟩) (i : Nat) (hi : i < 7) : Inv ⟨showSettingsColumns a i, l⟩ := by
  unfold showSettingsColumns
  split
  · exact h.set (h.setOK.tab0 hi)
  · exact h

theorem getSettingsItemsCount_spec
    (hset : SetOK a.settingsTabSelected a.settingSelected a.columns.length a.declared a.actual) :
    getSettingsItemsCount a = .ok (itemCount a.settingsTabSelected a.columns.length a.declared) := by
  unfold getSettingsItemsCount itemCount SETTINGS_TAB_COLUMNS
  by_cases h6 : a.settingsTabSelected = 6
  · simp [h6]
  · have hlt : a.settingsTabSelected < a.declared.length := by rw [hset.declLen]; exact hset.tab_lt
    simp [h6, List.getElem?_eq_getElem hlt]

theorem good_nextSettingsItem (h : Inv ⟨a, l⟩) : Good l (nextSettingsItem a) := by
  have hset := h.setOK
  have hpos := itemCount_pos hset
  unfold nextSettingsItem
  simp only [getSettingsItemsCount_spec hset, R.bind_ok, R.pure_eq]
  exact good_ok (h.set (hset.setItem (stepUp_lt (by omega) hset.item_lt)))

theorem good_previousSettingsItem (h : Inv ⟨a, l⟩) : Good l (previousSettingsItem a) := by
  have hset := h.setOK
  have hpos := itemCount_pos hset
  unfold previousSettingsItem
  simp only [getSettingsItemsCount_spec hset, R.bind_ok, R.pure_eq]
  exact good_ok (h.set (hset.setItem (stepDown_lt (by omega) hset.item_lt)))

theorem length_swapAdj {α : Type} (l : List α) (n : Nat) : (swapAdj l n).length = l.length := by
  fun_induction swapAdj l n with
  | case1 a b t => rfl
  | case2 a t n ih => exact congrArg (· + 1) ih
  | case3 l n _ _ => rfl

/-- `toggle_column_visibility`, `move_column_down`, `move_column_up` -/
theorem good_onColumn (h : Inv ⟨a, l⟩) {body : Nat → R App}
    (hb : ∀ sel, a.settingsTabSelected = 6 → a.settingSelected = some sel → sel < a.columns.length →
      Good l (body sel)) :
    Good l (if a.settingsTabSelected == SETTINGS_TAB_COLUMNS then
        match a.settingSelected with
        | some sel => body sel
        | none => .ok a
      else .ok a) := by
  split
  · rename_i h6
    have h6' : a.settingsTabSelected = 6 := by simpa [SETTINGS_TAB_COLUMNS] using h6
    split
    · rename_i sel hs
      have hlt := h.setOK.item_lt sel hs
      rw [itemCount_columns h6'] at hlt
      exact hb sel h6' hs hlt
    · exact good_ok h
  · exact good_ok h

theorem good_toggleColumnVisibility (h : Inv ⟨a, l⟩) : Good l (toggleColumnVisibility a) :=
  good_onColumn h fun sel h6 hs hlt => by
    simp only [columnsToggle, List.getElem?_eq_getElem hlt, R.bind_ok, R.pure_eq]
    exact good_ok (hs ▸ h.columns h6 (List.length_set ..) hlt)

theorem good_moveColumnDown (h : Inv ⟨a, l⟩) : Good l (moveColumnDown a) :=
  good_onColumn h fun sel h6 _ hlt => by
    rw [if_neg (by rw [beq_iff_eq]; omega)]
    split
    · simp only [columnsMoveDown, hlt, ↓reduceIte, show sel + 1 < a.columns.length by omega, R.bind_ok, R.pure_eq]
      exact good_ok (h.columns h6 (length_swapAdj ..) (by omega))
    · exact good_ok h

theorem good_moveColumnUp (h : Inv ⟨a, l⟩) : Good l (moveColumnUp a) :=
  good_onColumn h fun sel h6 _ hlt => by
    split
    · rename_i hgt
      simp only [columnsMoveUp, hgt, hlt, ↓reduceIte, R.bind_ok, R.pure_eq]
      exact good_ok (h.columns h6 (length_swapAdj ..) (by omega))
    · exact good_ok h

end handlers

theorem inv_data {s : Sys} (h : Inv s) (k : Nat) (sh : Shape) (w : Shape.WF sh) :
    Inv { s with live := s.live.set k sh } := by
  have d := h.dataOK
  refine Inv.live (a := s.app) h (fun sh' hm => ?_) (List.length_set.trans d.liveLen)
  rcases List.mem_or_eq_of_mem_set hm with h1 | rfl
  · exact d.liveWF sh' h1
  · exact w

theorem live_get {s : Sys} (h : Inv s) : ∃ sh, s.live[s.app.traceSelected]? = some sh ∧ Shape.WF sh := by
  have d := h.dataOK
  have hlt : s.app.traceSelected < s.live.length := d.liveLen ▸ d.trace_lt
  exact ⟨_, List.getElem?_eq_getElem hlt, d.liveWF _ (List.getElem_mem hlt)⟩

theorem clearTraceData_ok {s : Sys} (h : Inv s) : ∃ s', clearTraceData s = .ok s' ∧ Inv s' := by
  obtain ⟨sh, hget, _⟩ := live_get h
  unfold clearTraceData
  rw [hget]
  exact ⟨_, rfl, inv_data h _ _ (wf_cleared _)⟩

/-- `update_order_flow_counts` reads the snapshot only -/
theorem updateOrderFlowCounts_spec {snap : Shape} (w : Shape.WF snap) :
    ∃ fc, (∀ a : App, a.snap = snap → updateOrderFlowCounts a = .ok { a with flowCounts := fc }) ∧
      ∀ flow sf, (sf = true → flow ≠ 0) → FlowsOK snap fc flow sf := by
  obtain ⟨cs, hcs, hmap⟩ := flowCountsOf_ok snap (registry snap) (fun f hf => (mem_registry.mp hf).1)
  have hp : ((sortFlows cs).map (·.1)).Perm ((registry snap).map (·.id)) := hmap ▸ (sortFlows_perm cs).map _
  have hlen : (sortFlows cs).length ≤ snap.maxFlows := by
    have := hp.length_eq
    rw [List.length_map, List.length_map] at this
    exact this ▸ w.registry_le
  refine ⟨sortFlows cs, ?_, fun flow sf h0 => ⟨?_, ?_, h0⟩⟩
  · rintro a rfl
    simp [updateOrderFlowCounts, hcs, List.take_of_length_le hlen]
  · intro x hx
    obtain ⟨f, hf, e⟩ := List.mem_map.mp (hp.mem_iff.mp (List.mem_map_of_mem hx))
    obtain ⟨hm, hne⟩ := mem_registry.mp hf
    rw [← e]
    exact ⟨hne, findFlow_isSome_of_mem hm⟩
  · intro f hf
    obtain ⟨x, hx, e⟩ := List.mem_map.mp (hp.mem_iff.mpr (List.mem_map_of_mem hf))
    exact findPos_isSome.mpr ⟨x, hx, e⟩

theorem prologue_ok {s : Sys} (h : Inv s) : ∃ s', prologue true s = .ok s' ∧ Inv s' := by
  unfold prologue
  split
  · exact ⟨s, rfl, h⟩
  · obtain ⟨sh, hget, wsh⟩ := live_get h
    obtain ⟨y, hy, hsel, hsf⟩ := clampSelectedHop_spec (a := { s.app with snap := sh }) wsh h.flowsOK.flow_ne_zero
    obtain ⟨fc, hfc, hflows⟩ := updateOrderFlowCounts_spec wsh
    simp only [snapshotTraceData, hget, hy, hfc, R.bind_ok, R.pure_eq]
    exact ⟨_, rfl, Inv.snap (a := s.app) h wsh hsel (hflows _ _ hsf)⟩

theorem selectedHopOrTarget_ok {a : App}
    (hsel : SelOK a.snap a.selectedFlow a.selected a.selectedHopAddress) : selectedHopOrTarget a = .ok () := by
  have hp := hsel.present
  obtain ⟨hs, hh, hl, _⟩ := hsel
  unfold selectedHopOrTarget
  cases hs' : a.selected with
  | none => exact touchFlow_ok hp
  | some i => simp [hh, hl i hs']

theorem tableRows_ok {a : App} (hsel : SelOK a.snap a.selectedFlow a.selected a.selectedHopAddress)
    (hma : a.maxAddrs ≠ some 0) (hs : List HopS) : tableRows a hs = .ok () := by
  have hp := hsel.present
  obtain ⟨hs', hh, hl, -⟩ := hsel
  unfold tableRows
  split
  · rfl
  · simp [selectedHop_eq hh hl, touchFlow_ok hp, hma]

theorem frameIndexUses_ok {s : Sys} (h : Inv s) : frameIndexUses s.app = .ok () := by
  have hsel := h.selOK
  obtain ⟨hs, hh, -, -⟩ := h.selOK
  obtain ⟨f0, _, hh0⟩ := hopsForFlow_of_present h.dataOK.snapWF.flow0
  have hz : (s.app.zoom == 0) = false := by
    have := h.miscOK.zoom_pos
    rw [beq_eq_false_iff_ne]
    omega
  have hset' : s.app.settingsTabSelected < settingsTabsLen := h.setOK.tab_lt
  unfold frameIndexUses
  simp only [tracerConfig, h.dataOK.trace_lt, ↓reduceIte, hh, hh0, selectedHopOrTarget_ok hsel, hz,
    tableRows_ok hsel h.miscOK.maxAddrs_ne, hset', R.bind_ok, R.pure_eq, Bool.false_eq_true, ite_self]

theorem frame_ok {s : Sys} (h : Inv s) : ∃ s', frame true s = .ok s' ∧ Inv s' := by
  obtain ⟨s1, h1, hi1⟩ := prologue_ok h
  exact ⟨s1, by simp [frame, h1, frameIndexUses_ok hi1], hi1⟩

theorem onApp_ok {s : Sys} {r : R App} (h : Good s.live r) :
    ∃ s' q, onApp s r = .ok (s', q) ∧ Inv s' := by
  obtain ⟨a', hr, hi⟩ := h
  exact ⟨{ s with app := a' }, 0, by simp [onApp, hr], hi⟩

theorem onApp_inv {s : Sys} {a' : App} (h : Inv ⟨a', s.live⟩) : ∃ s' q, onApp s (.ok a') = .ok (s', q) ∧ Inv s' :=
  onApp_ok (good_ok h)

theorem settingsTab_lt {c : Cmd} {i : Nat} (h : c.settingsTab? = some i) : i < 7 := by
  cases c <;> simp [Cmd.settingsTab?] at h <;> omega

theorem tabKey_ok {s : Sys} (h : Inv s) {a : App} (ha : Inv ⟨a, s.live⟩) (c : Cmd) :
    ∃ s' q, (match c.settingsTab? with
      | some i => onApp s (.ok (showSettingsColumns a i))
      | none => .ok (s, 0)) = .ok (s', q) ∧ Inv s' := by
  split
  · rename_i i hi
    exact onApp_inv (inv_showSettingsColumns ha i (settingsTab_lt hi))
  · exact ⟨s, 0, rfl, h⟩

/-- The goals come in the order of the alternatives of `dispatch`, one per command of an or-pattern. -/
theorem dispatch_ok {s : Sys} (h : Inv s) (c : Cmd) : ∃ s' q, dispatch true c s = .ok (s', q) ∧ Inv s' := by
  have hh : Inv ⟨s.app, s.live⟩ := h
  have stay (q : Nat) : ∃ s' q', (R.ok (s, q) : R (Sys × Nat)) = .ok (s', q') ∧ Inv s' := ⟨s, q, rfl, h⟩
  unfold dispatch
  dsimp only
  split
  · split
    · exact onApp_inv (inv_toggleHelp hh)
    · exact onApp_inv (inv_toggleHelp hh)
    · exact onApp_inv (inv_toggleHelp hh)
    · exact onApp_inv (inv_toggleHelp hh)
    · exact onApp_inv (inv_toggleSettings (inv_toggleHelp hh))
    · exact tabKey_ok h (inv_toggleHelp hh) c
  · split
    · split
      · exact onApp_inv (inv_toggleSettings hh)
      · exact onApp_inv (inv_toggleSettings hh)
      · exact onApp_inv (inv_toggleSettings hh)
      · exact onApp_inv (inv_previousSettingsTab hh)
      · exact onApp_inv (inv_nextSettingsTab hh)
      · exact onApp_ok (good_nextSettingsItem hh)
      · exact onApp_ok (good_previousSettingsItem hh)
      · exact onApp_ok (good_toggleColumnVisibility hh)
      · exact onApp_ok (good_moveColumnDown hh)
      · exact onApp_ok (good_moveColumnUp hh)
      · exact tabKey_ok h hh c
    · split
      · exact onApp_inv (inv_toggleHelp hh)
      · exact onApp_inv (inv_toggleHelp hh)
      · exact onApp_inv (inv_toggleSettings hh)
      · exact onApp_ok (good_nextHop hh)
      · exact onApp_ok (good_previousHop hh)
      · split
        · exact onApp_ok (good_previousFlow hh)
        · exact onApp_inv (inv_previousTrace hh)
      · split
        · exact onApp_ok (good_nextFlow hh)
        · exact onApp_inv (inv_nextTrace hh)
      · exact onApp_ok (good_nextHopAddress hh)
      · exact onApp_ok (good_previousHopAddress hh)
      · exact stay 0
      · exact stay 0
      · exact stay 0
      · exact onApp_inv (inv_toggleFreeze hh)
      · exact onApp_inv (inv_toggleChart hh)
      · exact onApp_inv (inv_toggleMap hh)
      · exact onApp_ok (good_toggleFlows hh)
      · exact onApp_ok (good_expandPrivacy hh)
      · exact onApp_inv (inv_contractPrivacy hh)
      · exact onApp_inv (inv_contractHostsMin hh)
      · exact onApp_ok (good_expandHostsMax hh)
      · exact onApp_inv (inv_contractHosts hh)
      · exact onApp_ok (good_expandHosts hh)
      · exact onApp_inv (inv_zoomIn hh)
      · exact onApp_inv (inv_zoomOut hh)
      · obtain ⟨s', hs', hi'⟩ := clearTraceData_ok (s := { s with app := clearSel s.app }) (inv_clearSel hh)
        exact ⟨s', 0, by simp [hs'], hi'⟩
      · exact stay 0
      · exact onApp_inv (inv_clearSel hh)
      · exact stay 0
      · exact onApp_inv (inv_toggleHopDetails hh)
      · exact stay 1
      · exact stay 1
      · exact stay 2
      · exact tabKey_ok h hh c

/-- The operations C17 quantifies over: the tracer thread may replace the state of any live
tracer by *any* well-formed state (a superset of "a round was aggregated", "the trace was
cleared", "an error was recorded": no monotonicity is assumed), the user may press any key of
the binding table, a frame may be drawn (at any terminal size: the size takes no part in any
index expression). -/
def OpOK : Op → Prop
  | .data _ sh => Shape.WF sh
  | _ => True

theorem step_ok {s : Sys} (h : Inv s) {op : Op} (ho : OpOK op) : ∃ s', step true s op = .ok s' ∧ Inv s' := by
  cases op with
  | data k sh => exact ⟨_, rfl, inv_data h k sh ho⟩
  | key c =>
    obtain ⟨s', q, hd, hi⟩ := dispatch_ok h c
    exact ⟨s', by simp [step, hd], hi⟩
  | frame => exact frame_ok h

theorem steps_ok : ∀ (ops : List Op) {s : Sys}, Inv s → (∀ op ∈ ops, OpOK op) →
    ∃ s', steps true s ops = .ok s' ∧ Inv s'
  | [], s, h, _ => ⟨s, rfl, h⟩
  | op :: ops, s, h, ho => by
    obtain ⟨s1, h1, hi1⟩ := step_ok h (ho op (List.mem_cons_self ..))
    obtain ⟨s2, h2, hi2⟩ := steps_ok ops hi1 (fun o hm => ho o (List.mem_cons_of_mem _ hm))
    exact ⟨s2, by simp [steps, h1, h2], hi2⟩

/-- What `TuiApp::new` is given: at least one trace, the validated configuration
(`--tui-max-addrs 0` is mapped to `None` by the configuration layer, the privacy ttl is a `u8`),
at least one column, and `settings_tabs()` consistent with what `format_all_settings` renders
(the harness compares the two on every run). -/
structure CfgOK (n : Nat) (live : List Shape) (privacy maxAddrs : Option Nat)
    (columns : List (Char × Bool)) (declared actual : List Nat) : Prop where
  traces : 0 < n
  liveLen : live.length = n
  liveWF : ∀ sh ∈ live, Shape.WF sh
  privacy : ∀ p, privacy = some p → p ≤ 255
  maxAddrs : maxAddrs ≠ some 0
  columns : 0 < columns.length
  declLen : declared.length = 7
  actLen : actual.length = 7
  counts : ∀ t, t < 6 → 0 < declared[t]?.getD 0 ∧ declared[t]?.getD 0 ≤ actual[t]?.getD 0

theorem inv_init {n mf : Nat} {live : List Shape} {privacy maxAddrs : Option Nat}
    {columns : List (Char × Bool)} {declared actual : List Nat}
    (c : CfgOK n live privacy maxAddrs columns declared actual) :
    Inv (initSys n mf live privacy maxAddrs columns declared actual) :=
  ⟨⟨wf_cleared mf, c.liveWF, c.liveLen, c.traces⟩,
    ⟨[], rfl, nofun, Nat.le_max_left 1 _⟩,
    ⟨nofun, nofun, nofun⟩,
    ⟨Nat.zero_lt_succ 6, c.declLen, c.actLen, c.counts, c.columns, nofun⟩,
    ⟨c.maxAddrs, Nat.le_refl 1, c.privacy⟩⟩

/-- the number of items `format_all_settings` renders for a tab -/
def renderedCount (a : App) : Nat :=
  if a.settingsTabSelected = 6 then a.columns.length else a.actual[a.settingsTabSelected]?.getD 0

/-- "The selected hop, hop address, flow, trace, settings tab and settings item always refer to
entries that exist in the data being displayed." -/
structure Valid (s : Sys) : Prop where
  flow : (findFlow s.app.snap s.app.selectedFlow).isSome = true
  hop : ∃ hs, hopsForFlow s.app.snap s.app.selectedFlow = .ok hs ∧
          (∀ i, s.app.selected = some i → i < hs.length) ∧
          s.app.selectedHopAddress < max 1 (addrCountAt hs s.app.selected)
  flowTab : s.app.showFlows = true → (findPos s.app.selectedFlow s.app.flowCounts).isSome = true
  trace : s.app.traceSelected < s.app.nTraces ∧ s.app.nTraces = s.live.length
  tab : s.app.settingsTabSelected < 7
  item : ∀ i, s.app.settingSelected = some i → i < renderedCount s.app

theorem itemCount_le_rendered {a : App}
    (h : SetOK a.settingsTabSelected a.settingSelected a.columns.length a.declared a.actual) :
    itemCount a.settingsTabSelected a.columns.length a.declared ≤ renderedCount a := by
  unfold itemCount renderedCount
  split
  · exact Nat.le_refl _
  · exact (h.counts (by have := h.tab_lt; omega)).2

theorem valid_of_inv {s : Sys} (h : Inv s) : Valid s :=
  ⟨h.selOK.present, h.selOK, flow_in_counts h.flowsOK h.selOK, ⟨h.dataOK.trace_lt, h.dataOK.liveLen.symm⟩,
    h.setOK.tab_lt, fun i hi => Nat.lt_of_lt_of_le (h.setOK.item_lt i hi) (itemCount_le_rendered h.setOK)⟩

/-- **C17 (index state), patched code.**  From any initial configuration, for every interleaving
of data updates, keys and frames: no modelled method panics (every operation returns normally)
and every selection is valid after every operation — in particular at every frame.

Scope: the statement is about the index-state model of `Model/Tui.lean` (all `TuiApp` methods,
prologue, key dispatch, and the index expressions of the render functions).  The drawing code of
ratatui itself is not modelled; it is exercised by the harness (`tvh tui`) at terminal sizes
1x1 … 300x100. -/
theorem no_panic_and_valid {n mf : Nat} {live : List Shape} {privacy maxAddrs : Option Nat}
    {columns : List (Char × Bool)} {declared actual : List Nat}
    (c : CfgOK n live privacy maxAddrs columns declared actual)
    (ops : List Op) (ho : ∀ op ∈ ops, OpOK op) :
    ∀ pre suf, ops = pre ++ suf →
      ∃ s', steps true (initSys n mf live privacy maxAddrs columns declared actual) pre = .ok s' ∧
        Inv s' ∧ Valid s' := by
  intro pre suf e
  obtain ⟨s', h1, h2⟩ := steps_ok pre (inv_init (mf := mf) c)
    (fun o hm => ho o (by rw [e]; exact List.mem_append_left _ hm))
  exact ⟨s', h1, h2, valid_of_inv h2⟩

theorem no_panic {n mf : Nat} {live : List Shape} {privacy maxAddrs : Option Nat}
    {columns : List (Char × Bool)} {declared actual : List Nat}
    (c : CfgOK n live privacy maxAddrs columns declared actual)
    (ops : List Op) (ho : ∀ op ∈ ops, OpOK op) :
    steps true (initSys n mf live privacy maxAddrs columns declared actual) ops ≠ .panic := by
  obtain ⟨s', h1, _⟩ := no_panic_and_valid (mf := mf) c ops ho ops [] (by simp)
  rw [h1]
  exact nofun

theorem frame_valid {s : Sys} (h : Inv s) : ∃ s', frame true s = .ok s' ∧ Valid s' := by
  obtain ⟨s', h1, h2⟩ := frame_ok h
  exact ⟨s', h1, valid_of_inv h2⟩

theorem key_valid {s : Sys} (h : Inv s) (c : Cmd) : ∃ s' q, dispatch true c s = .ok (s', q) ∧ Valid s' := by
  obtain ⟨s', q, h1, h2⟩ := dispatch_ok h c
  exact ⟨s', q, h1, valid_of_inv h2⟩

/-- all 27 columns, shown -/
def cols0 : List (Char × Bool) := List.replicate 27 ('x', true)
/-- the item counts `settings_tabs()` declares for the tabs Tui, Trace, Dns, GeoIp, Bindings, Theme, Columns -/
def decl0 : List Nat := [10, 18, 5, 1, 37, 33, 0]
/-- the item counts `format_all_settings` renders: one binding more than declared, one item per column -/
def act0 : List Nat := [10, 18, 5, 1, 38, 33, 27]
def sys0 : Sys := initSys 1 64 [Shape.cleared 64] none none cols0 decl0 act0

theorem cfg0 : CfgOK 1 [Shape.cleared 64] none none cols0 decl0 act0 where
  traces := Nat.one_pos
  liveLen := rfl
  liveWF := fun _ h => List.mem_singleton.mp h ▸ wf_cleared 64
  privacy := nofun
  maxAddrs := nofun
  columns := by decide
  declLen := rfl
  actLen := rfl
  counts := by decide

def hop (ttl addrs : Nat) : HopS := ⟨ttl, addrs⟩
def shA : Shape := ⟨false, 64, [⟨0, 1, [hop 1 1, hop 2 1, hop 3 1]⟩, ⟨1, 1, [hop 1 1, hop 2 1, hop 3 1]⟩]⟩
def shC : Shape := ⟨false, 64, [⟨0, 1, [hop 1 0, hop 2 1]⟩, ⟨1, 1, [hop 1 0, hop 2 1]⟩]⟩
def shD1 : Shape := ⟨false, 64, [⟨0, 1, [hop 1 0, hop 2 0]⟩, ⟨1, 1, [hop 1 0, hop 2 0]⟩]⟩
def shD2 : Shape := ⟨false, 64, [⟨0, 2, [hop 1 1, hop 2 0]⟩, ⟨1, 2, [hop 1 1, hop 2 0]⟩]⟩
def shE : Shape := ⟨false, 64, [⟨0, 3, [hop 1 2, hop 2 2, hop 3 1, hop 4 1]⟩,
  ⟨1, 2, [hop 1 1, hop 2 1, hop 3 1, hop 4 1]⟩, ⟨2, 1, [hop 1 1, hop 2 1]⟩]⟩
def shF : Shape := ⟨false, 64, [⟨0, 2, [hop 1 2, hop 2 2, hop 3 1, hop 4 1]⟩,
  ⟨1, 1, [hop 1 1, hop 2 1]⟩, ⟨2, 1, [hop 1 1, hop 2 1, hop 3 1, hop 4 1]⟩]⟩
def shG1 : Shape := ⟨false, 1, [⟨0, 3, [hop 1 1, hop 2 1, hop 3 1, hop 4 3]⟩, ⟨1, 3, [hop 1 1, hop 2 1, hop 3 1, hop 4 3]⟩]⟩
def shG2 : Shape := ⟨false, 1, [⟨0, 1, [hop 1 1, hop 2 1]⟩, ⟨1, 1, [hop 1 1, hop 2 1]⟩]⟩

section
open Op Cmd

/-- F11(a): flows shown, trace data cleared (ctrl-r) ⇒ `hops_for_flow(FlowId(1))`: no entry found for key -/
def opsA : List Op := [data 0 shA, frame, key toggleFlows, frame, key clearTraceData, frame]
/-- F11(b): frozen, cleared, a hop of the stale snapshot selected, unfrozen ⇒ `hop_count - 1` underflows -/
def opsB : List Op := [data 0 shA, frame, key toggleFreeze, frame, key clearTraceData, frame, key nextHop, frame,
  key toggleFreeze, frame]
/-- F11(c): `next_hop_address` on a selected hop without responses ⇒ `addr_count() - 1` underflows -/
def opsC : List Op := [data 0 shC, frame, key nextHop, frame, key nextHopAddress]
/-- F11(d): `expand_hosts_max` while no hop has answered sets `max_addrs = Some(0)`; the next response
makes `render_hostname` evaluate `clamp(1, 0)` -/
def opsD : List Op := [data 0 shD1, frame, key expandHostsMax, frame, data 0 shD2, frame]
/-- F11(e): frozen, switching to a shorter flow leaves the selected hop past its end ⇒ index out of bounds -/
def opsE : List Op := [data 0 shE, frame, key toggleFlows, frame, key previousHop, frame, key toggleFreeze, frame,
  key nextTrace, frame]
/-- F11(f): frozen, opening the flows view with the selected hop past the end of flow 1 -/
def opsF : List Op := [data 0 shF, frame, key previousHop, frame, key toggleFreeze, frame, key toggleFlows, frame]
/-- F11(g): no panic, but a hop address index that refers to nothing: frozen, cleared, last hop of the
stale snapshot and its third address selected, unfrozen over a shorter path -/
def opsG : List Op := [data 0 shG1, frame, key toggleFreeze, frame, key clearTraceData, frame, key previousHop, frame,
  key nextHopAddress, frame, key nextHopAddress, frame, data 0 shG2, key toggleFreeze, frame]

end

theorem current_panics_a : steps false sys0 opsA = .panic := by decide
theorem current_panics_b : steps false sys0 opsB = .panic := by decide
theorem current_panics_c : steps false sys0 opsC = .panic := by decide
theorem current_panics_d : steps false sys0 opsD = .panic := by decide
theorem current_panics_e : steps false sys0 opsE = .panic := by decide
theorem current_panics_f : steps false sys0 opsF = .panic := by decide

/-- the state `opsG` ends in (`current_invalid_g` confirms that the run returns `.ok`) -/
def sG : Sys := match steps false sys0 opsG with
  | .ok s => s
  | _ => sys0

theorem current_invalid_g : steps false sys0 opsG = .ok sG ∧
    sG.app.selected = some 1 ∧ sG.app.selectedHopAddress = 2 ∧
    hopsForFlow sG.app.snap sG.app.selectedFlow = .ok [hop 1 1, hop 2 1] :=
  ⟨by decide, by decide, by decide, by decide⟩

instance (s : Shape) : Decidable (Shape.WF s) := decidable_of_iff _ (wfB_iff s)

instance : DecidablePred OpOK
  | .data _ sh => inferInstanceAs (Decidable (Shape.WF sh))
  | .key _ => instDecidableTrue
  | .frame => instDecidableTrue

/-- **C17 does not hold for the current code**: there are admissible operation sequences on which
a method panics. -/
theorem current_code_panics :
    ¬ (∀ ops : List Op, (∀ op ∈ ops, OpOK op) → steps false sys0 ops ≠ .panic) := by
  intro h
  exact h opsA (by decide) current_panics_a

/-- … and one on which nothing panics but a selection refers to nothing. -/
theorem current_code_invalid_selection :
    ¬ (∀ ops : List Op, (∀ op ∈ ops, OpOK op) → ∀ s', steps false sys0 ops = .ok s' → Valid s') := by
  intro h
  obtain ⟨hs, hsel, haddr, hhops⟩ := current_invalid_g
  obtain ⟨hs2, hh2, _, hlt⟩ := (h opsG (by decide) sG hs).hop
  rw [hhops] at hh2
  cases hh2
  rw [hsel, haddr] at hlt
  exact absurd hlt (by decide)

/-- the same sequences are harmless for the patched code -/
theorem patched_ok_on_witnesses :
    (∃ s, steps true sys0 opsA = .ok s ∧ Valid s) ∧ (∃ s, steps true sys0 opsB = .ok s ∧ Valid s) ∧
    (∃ s, steps true sys0 opsC = .ok s ∧ Valid s) ∧ (∃ s, steps true sys0 opsD = .ok s ∧ Valid s) ∧
    (∃ s, steps true sys0 opsE = .ok s ∧ Valid s) ∧ (∃ s, steps true sys0 opsF = .ok s ∧ Valid s) ∧
    (∃ s, steps true sys0 opsG = .ok s ∧ Valid s) := by
  have k : ∀ ops, (∀ op ∈ ops, OpOK op) → ∃ s, steps true sys0 ops = .ok s ∧ Valid s := by
    intro ops ho
    obtain ⟨s', h1, _, h3⟩ := no_panic_and_valid (mf := 64) cfg0 ops ho ops [] (by simp)
    exact ⟨s', h1, h3⟩
  exact ⟨k _ (by decide), k _ (by decide), k _ (by decide), k _ (by decide), k _ (by decide), k _ (by decide),
    k _ (by decide)⟩

/-- once the integrator has applied the patch and flipped `Tui.codeIsFixed`, the model the driver
runs (`TuiIO.handle`) is the one the theorems are about -/
theorem no_panic_driver (hsw : codeIsFixed = true) {n mf : Nat} {live : List Shape} {privacy maxAddrs : Option Nat}
    {columns : List (Char × Bool)} {declared actual : List Nat}
    (c : CfgOK n live privacy maxAddrs columns declared actual)
    (ops : List Op) (ho : ∀ op ∈ ops, OpOK op) :
    steps codeIsFixed (initSys n mf live privacy maxAddrs columns declared actual) ops ≠ .panic := by
  rw [hsw]; exact no_panic c ops ho

end TV.Props.C17

#print axioms TV.Props.C17.no_panic_and_valid
#print axioms TV.Props.C17.no_panic
#print axioms TV.Props.C17.frame_valid
#print axioms TV.Props.C17.key_valid
#print axioms TV.Props.C17.current_code_panics
#print axioms TV.Props.C17.current_code_invalid_selection
#print axioms TV.Props.C17.patched_ok_on_witnesses
#print axioms TV.Props.C17.current_panics_a
#print axioms TV.Props.C17.current_panics_b
#print axioms TV.Props.C17.current_panics_c
#print axioms TV.Props.C17.current_panics_d
#print axioms TV.Props.C17.current_panics_e
#print axioms TV.Props.C17.current_panics_f
#print axioms TV.Props.C17.no_panic_driver
#print axioms TV.Props.C17.wfB_iff
