import TrippyVerif.Gen.LayoutIdx
/-!
# C17 — the frame's panels exist (translator tie)

Every render function that splits its area into chunks and then picks chunks by number: the numbers are below the
number of chunks.  A row ends in (number of chunks, greatest index used).  `layoutUses`: one row per function with a
single layout.  `layoutBranches`: the top-level frame (`render/app.rs`), whose layout depends on the number of traces
and on the flows panel; one row per arm of the chain that draws, which is required to test the very conditions of the
chain that chose the layout (the translator `tools/rs2lean/layoutidx.py` refuses anything else), and a row `common`.
`Gen/LayoutIdx.lean` is regenerated from the source on every run.
-/
namespace TV.Props.LayoutIdx
open TV.Gen.LayoutIdx

theorem indices_within_layout : ∀ r ∈ layoutUses, r.2.2.2 < r.2.2.1 := by decide +kernel

theorem indices_within_chosen_layout : ∀ r ∈ layoutBranches, r.2.2.2 < r.2.2.1 := by decide +kernel

/-- non-vacuity: the top-level frame and the dialogs are among them -/
theorem layouts_found : 5 ≤ layoutUses.length ∧ 3 ≤ layoutBranches.length ∧
    (layoutBranches.map (·.1)).contains "app.rs::render" = true := by decide +kernel

#print axioms indices_within_layout
#print axioms indices_within_chosen_layout
#print axioms layouts_found
end TV.Props.LayoutIdx
