import TrippyVerif.Props.StackLive
/-!
# C19 end to end: "every other configuration reports not-applicable"

For a trace that is not Dublin over IPv4, after **any** run of `Tracer::run` over the real `Channel`
(model `TV.Stack`) — whatever errors the socket calls returned, whatever bytes arrived, forged or
genuine — every hop of the hop table reports the NAT status `NotApplicable`.

Composition of: `StackLive.loop_rounds_without_checksums` (no published entry carries a checksum
pair; from `C19Strat` via the ghost history of C01), `Stack.stack_state_is_aggregation` (every hop
is the re-aggregation of its outcomes), and the positional definition of the status (`Reagg.natOf`).
-/
namespace TV.Props.StackNat
open TV.Strat TV.Stack TV.Reagg

/-- without checksum pairs no outcome of a round carries a NAT classification -/
theorem tagSlots_nat_none : ∀ (rest pre : List Slot), (∀ sl ∈ rest, ckPair sl = none) →
    ∀ x ∈ tagSlots pre rest, x.2.nat = none := by
  intro rest
  induction rest with
  | nil =>
    intro pre _ x hx
    simp [tagSlots] at hx
  | cons s post ih =>
    intro pre h x hx
    rw [tagSlots, List.mem_append] at hx
    rcases hx with hx | hx
    · have hs := h s (by simp)
      cases s <;> simp only [tagOf, Option.toList, List.mem_singleton, List.not_mem_nil] at hx
      case complete c =>
        subst hx
        exact Agg.natOf_of_no_ckPair hs
      case awaited p =>
        subst hx
        rfl
      case failed p =>
        subst hx
        rfl
    · exact ih (pre ++ [s]) (fun sl hsl => h sl (by simp [hsl])) x hx

theorem outcomes_nat_none (t : Nat) (hist : List Round)
    (h : ∀ r ∈ hist, ∀ sl ∈ r.probes, ckPair sl = none) :
    (outcomes t hist).filterMap Outcome.nat = [] := by
  rw [List.filterMap_eq_nil_iff]
  intro o ho
  obtain ⟨r, hr, ho⟩ := Agg.mem_outcomes.1 ho
  exact tagSlots_nat_none r.probes [] (h r hr) (t, o) ho

/-- **C19, not applicable.** -/
theorem stack_nat_not_applicable {F : Type} [Agg.Num F] (k : TracerCfg) (hc : CfgOk k.strat)
    (hfm : k.strat.firstTtl ≤ k.strat.maxTtl) (hinf : 1 ≤ k.strat.maxInflight)
    (hna : k.strat.strat ≠ .dublin ∨ k.strat.v6 = true) (t0 : Nat) (envs : List Env) (st : St F)
    (h : (Stack.run (F := F) k t0 envs).state = some st) :
    ∃ fs, Agg.lookupFlow st.agg.flows 0 = some fs ∧
      ∀ t, 1 ≤ t → t ≤ 254 → ∃ hp, fs.hops[t - 1]? = some hp ∧ hp.lastNatStatus = .notApplicable := by
  obtain ⟨_, _, _, _, _, _, fs, hfs, hhops⟩ := Props.Stack.stack_state_is_aggregation k hc hfm hinf t0 envs st h
  refine ⟨fs, hfs, fun t h1 h2 => ?_⟩
  obtain ⟨hp, hget, hstats⟩ := hhops t h1 h2
  refine ⟨hp, hget, ?_⟩
  have hnock : ∀ r ∈ Props.Stack.published (Stack.run (F := F) k t0 envs).outs, ∀ sl ∈ r.probes, ckPair sl = none := by
    rcases run_eq (F := F) k t0 envs with ⟨r, -, -, hrun⟩ | ⟨st0, ops, -, hts, -, hrun⟩
    · rw [hrun]
      intro r hr
      cases hr
    · rw [hrun]
      exact StackLive.loop_rounds_without_checksums hc hna envs st0 (hts ▸ .init t0)
  have hl : (statsOf hp).lastNatStatus = .notApplicable := by
    rw [hstats]
    simp only [reagg]
    rw [outcomes_nat_none t _ hnock]
    rfl
  simpa [statsOf] using hl

end TV.Props.StackNat

#print axioms TV.Props.StackNat.tagSlots_nat_none
#print axioms TV.Props.StackNat.outcomes_nat_none
#print axioms TV.Props.StackNat.stack_nat_not_applicable
