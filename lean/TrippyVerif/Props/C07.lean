import TrippyVerif.Props.C03
/-!
# C07 — sequence numbers stay unique, in range and inside the round buffer

For every builder-accepted configuration (initial sequence 0..=64511, both maximum-sequence
regimes), every environment (any per-round probe and re-issue counts), unboundedly many rounds.
The constants `BUFFER_SIZE`, `MAX_SEQUENCE`, `MAX_INITIAL_SEQUENCE` come from `Gen/Consts.lean`,
regenerated from the source on every run.
-/
namespace TV.Props.C07
open TV.Strat

/-- the sequence numbers handed out in an iteration are consecutive, starting at the state's
next sequence number; none reaches 65535 -/
theorem consecutive {c : Cfg} (hc : CfgOk c) {s s' : TS} (hs : Reach c s) {e : IterEnv} {o : IterOut}
    (h : iter c s e = .ok (s', o)) :
    o.sent.map (fun x => x.1.seq) = List.range' s.sequence o.sent.length ∧
    ∀ x ∈ o.sent, x.1.seq < 65535 := by
  obtain ⟨s1, hk⟩ := iter_ok hc (reach_inv hc hs) h
  refine ⟨hk.sent.seqs, fun x hx => ?_⟩
  have := hk.inv1.seq_le hc
  have := (hk.sent.seq_mem hx).2
  omega

/-- in every reachable state: the round has allocated `sequence − round_sequence ≤ 512`
consecutive numbers, `initial ≤ round_sequence < max_sequence ≤ 65023`, `sequence ≤ 65534` -/
theorem window {c : Cfg} (hc : CfgOk c) {s : TS} (hs : Reach c s) :
    s.roundSeq ≤ s.sequence ∧ s.sequence - s.roundSeq ≤ 512 ∧ c.initialSeq ≤ s.roundSeq ∧
    s.roundSeq < maxSeqN c ∧ maxSeqN c ≤ 65023 ∧ s.sequence ≤ 65534 := by
  have hi := reach_inv hc hs
  have h4 := hi.count_le
  simp only [BUFFER_SIZE_eq, TS.count] at h4
  exact ⟨hi.seq_ge, h4, hi.rs_ge, hi.rs_lt, (maxSeqN_bounds hc).2, hi.seq_le hc⟩

/-- every probe recorded in the buffer for the current round sits at index `sequence −
round_sequence` of the buffer (so indices are `< 512`) -/
theorem slot_index {c : Cfg} (hc : CfgOk c) {s : TS} (hs : Reach c s) (k : Nat) (sl : Slot) (p : Probe)
    (h1 : s.buffer[k]? = some sl) (h2 : sl.probe? = some p) (h3 : p.round = s.round) :
    k < 512 ∧ p.seq = s.roundSeq + k ∧ p.seq < s.sequence := by
  have hi := reach_inv hc hs
  obtain ⟨a, b, _, _⟩ := (hi.slots k sl p h1 h2).2 h3
  have hcnt := hi.count_le
  have := hi.seq_eq
  rw [BUFFER_SIZE_eq] at hcnt
  omega

/-- across a round boundary sequence numbers only move forward or restart at the initial
sequence -/
theorem round_boundary {c : Cfg} (hc : CfgOk c) {s s' : TS} (hs : Reach c s) {e : IterEnv} {o : IterOut}
    (h : iter c s e = .ok (s', o)) (hp : o.published ≠ none) :
    s'.sequence = s'.roundSeq ∧
    (s'.roundSeq = s.sequence + o.sent.length ∨ s'.roundSeq = c.initialSeq) := by
  obtain ⟨s1, hk⟩ := iter_ok hc (reach_inv hc hs) h
  rcases hk.round with ⟨_, _, hn⟩ | ⟨_, rfl, _⟩
  · exact absurd hn hp
  · refine ⟨afterAdvance_sequence c _, ?_⟩
    rw [afterAdvance_roundSeq, hk.check.sequence]
    split
    · exact Or.inr rfl
    · exact Or.inl rfl

/-- exhausting a round's sequence budget never indexes outside the buffer: no loop iteration
panics (array index, `u8`/`u16` overflow, `debug_assert!`, `unimplemented!`), in any environment -/
theorem no_panic {c : Cfg} (hc : CfgOk c) {s : TS} (hs : Reach c s) (e : IterEnv) :
    iter c s e ≠ .panic := (iter_inv hc (reach_inv hc hs) e).1

/-- … and for ICMP and UDP the budget cannot even be exhausted -/
theorem non_tcp_count {c : Cfg} (hc : CfgOk c) {s : TS} (hs : Reach c s) (hp : c.proto ≠ .tcp) :
    s.sequence - s.roundSeq = s.ttl - c.firstTtl ∧ s.sequence - s.roundSeq ≤ 254 := by
  have hi := reach_inv hc hs
  have h1 := hi.count_ttl hp
  have h2 := hi.ttl_le
  have h3 := hc.first_ge
  unfold TS.count at h1
  exact ⟨h1, by omega⟩

/-- Dublin/IPv6: the payload length derived from the sequence (`sequence − initial` octets
plus the 6-octet marker) always fits the 976-octet UDP payload buffer -/
theorem dublin_ipv6_payload_fits {c : Cfg} (hc : CfgOk c) {s s' : TS} (hs : Reach c s) {e : IterEnv}
    {o : IterOut} (h : iter c s e = .ok (s', o)) (hd : c.strat = .dublin) (h6 : c.v6 = true)
    (hu : c.proto = .udp) :
    ∀ x ∈ o.sent, c.initialSeq ≤ x.1.seq ∧
      x.1.seq - c.initialSeq + Consts.net6_MAGIC.length ≤ Consts.net6_MAX_UDP_PAYLOAD_BUF := by
  intro x hx
  have hi := reach_inv hc hs
  obtain ⟨s1, hk⟩ := iter_ok hc hi h
  have hi1 := hk.inv1
  -- `round_seq < initial + 512` and UDP allocates `ttl − first ≤ 254` numbers in a round: `511 + 254 + 6 ≤ 976`
  have hlt := (hk.sent.seq_mem hx).2
  have hge := (hk.sent.seq_mem hx).1
  have hcnt := hi1.count_ttl (by simp [hu])
  have hseq := hi1.seq_eq
  have hrs := hi1.rs_lt
  have httl := hi1.ttl_le
  have hfirst := hc.first_ge
  have hinit := hi.rs_ge
  have hsge := hi.seq_ge
  have hms : maxSeqN c = c.initialSeq + 512 := by simp [maxSeqN, hd, h6, BUFFER_SIZE_eq]
  simp only [Consts.net6_MAGIC, Consts.net6_MAX_UDP_PAYLOAD_BUF, List.length_cons, List.length_nil]
  omega

/-- **separation** — the sequence numbers of consecutive rounds are disjoint whenever the two
rounds together use at most 512 sequence numbers (always the case for ICMP and UDP, which use
at most 254 per round): the new round's window `[round_sequence', round_sequence' + m)` does not
meet the previous round's `[round_sequence, sequence)`. -/
theorem separation {c : Cfg} (hc : CfgOk c) {s : TS} (hi : Inv c s) (m : Nat)
    (hm : s.count + m ≤ 512) (q : Nat) (hq1 : s.roundSeq ≤ q) (hq2 : q < s.sequence) :
    ¬ ((afterAdvance c s).roundSeq ≤ q ∧ q < (afterAdvance c s).roundSeq + m) := by
  have h1 := hi.seq_eq
  have hle := hc.init_le
  rw [afterAdvance_roundSeq]
  split
  · rename_i hge
    have : maxSeqN c = c.initialSeq + 512 ∨ maxSeqN c = 65023 := by
      unfold maxSeqN
      split <;> simp [BUFFER_SIZE_eq, MAX_SEQUENCE_eq]
    rcases this with h | h <;> omega
  · omega

/-- the largest initial sequence the builder accepts, over TCP (the only protocol that can use 512 numbers in a round) -/
def cfgW : Cfg :=
  { v6 := false, target := 7, proto := .tcp, traceId := 0, maxRounds := none, firstTtl := 1,
    maxTtl := 30, grace := 100, maxInflight := 24, initialSeq := 64511, strat := .classic,
    portDir := .fixedSrc 5000, minRound := 1000, maxRound := 1000 }

/-- the corner `separation` leaves open: with initial sequence 64511 a round that used all 512 numbers is
followed by a round that reuses them (closing it would mean lowering `MAX_INITIAL_SEQUENCE`, which the
repository's own `test_invalid_initial_sequence` pins) -/
theorem separation_residual_witness :
    ∃ s : TS, s.roundSeq = 64511 ∧ s.sequence = 65023 ∧ (afterAdvance cfgW s).roundSeq = 64511 :=
  ⟨{ init cfgW 0 with sequence := 65023 }, rfl, rfl, by decide⟩

/-- and a response can only be accepted for a sequence number allocated in the current round,
so with disjoint windows a response to the previous round's probe is never accepted -/
theorem accepted_is_current {c : Cfg} (hc : CfgOk c) {s : TS} (hs : Reach c s) {r : Resp} {p : Probe}
    (hg : genuine c s r = some p) : s.roundSeq ≤ p.seq ∧ p.seq < s.sequence ∧ p.round = s.round := by
  obtain ⟨_, _, _, hge, hlt, hr, _⟩ := C03.genuine_sound hc hs hg
  exact ⟨hge, hlt, hr⟩

end TV.Props.C07

#print axioms TV.Props.C07.consecutive
#print axioms TV.Props.C07.window
#print axioms TV.Props.C07.slot_index
#print axioms TV.Props.C07.round_boundary
#print axioms TV.Props.C07.no_panic
#print axioms TV.Props.C07.non_tcp_count
#print axioms TV.Props.C07.dublin_ipv6_payload_fits
#print axioms TV.Props.C07.separation
#print axioms TV.Props.C07.separation_residual_witness
#print axioms TV.Props.C07.accepted_is_current
