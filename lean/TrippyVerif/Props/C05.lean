import TrippyVerif.Lemmas.Welford
import TrippyVerif.Lemmas.AggRun
/-
C05 — "Per-hop statistics equal an independent re-aggregation of the rounds"

After any sequence of published rounds, each hop's sent, received and failed counts, loss
percentage, forward/backward loss counts, last/best/worst/average round-trip time, standard
deviation, jitter figures, per-address response counts, last-probe details and bounded
newest-first sample history equal what a straightforward recomputation from those rounds yields.
In particular received+failed ≤ sent, address counts sum to received, best ≤ average ≤ worst,
0 ≤ loss ≤ 100, forward+backward loss ≤ sent−received−failed, and the history never exceeds the
configured sample limit.

Model : `TV.Agg.{FlowState.run, State.run, Hop}` (Model/StateAgg.lean)
Spec  : `TV.Reagg.{outcomes, reagg, jitterSpec, jmaxSpec}` (Spec/Reagg.lean) – direct definitions
        (counts, sums, minima, last elements, prefix of the reversed list) on the flattened
        outcomes of the hop; loss / NAT classification defined positionally per round.

Levels
  * exact (integer) fields: proved for every number type `F`, every history of `RoundWF` rounds of
    any length, every sample limit (0 included);
  * `jitter`, `jmax`: proved for number types that convert durations exactly (`ExactDur`, holds for
    ℚ); for `f64` the two `Duration::from_secs_f64` results are compared by the harness (±2 ns);
  * `mean`, `m2` (variance / standard deviation), `javg` (and the derived average / loss
    percentages): proved over ℚ to be the two-pass quantities (arithmetic mean, sum of squared
    deviations, mean jitter); IEEE ROUNDING IS NOT MODELLED (partial), `sqrt` is not modelled:
    the statement about the standard deviation is `stddev_ms² = m2/(n−1) = sample variance`.
-/
namespace TV.Props.C05
open TV.Strat TV.Agg TV.Reagg

variable {F : Type} [Num F]

/-- Refinement, flow level: after any history of well-formed rounds the aggregation has not
panicked and the hop at every ttl `t ∈ [1,254]` holds exactly the re-aggregated statistics of the
outcomes of ttl `t` (all nineteen exact fields at once: `Stats` / `statsOf`). -/
theorem refinement (ms : Nat) (hist : List Round) (hwf : ∀ r ∈ hist, RoundWF r) :
    ∃ fs, FlowState.run (FlowState.new (F := F) ms) hist = .ok fs ∧
      ∀ t, 1 ≤ t → t ≤ 254 →
        ∃ h, fs.hops[t - 1]? = some h ∧ statsOf h = reagg ms (outcomes t hist) := by
  obtain ⟨fs, h1, hR⟩ := run_new (F := F) ms hist hwf
  exact ⟨fs, h1, hR.stats⟩

/-- Refinement, state level: the same for the default flow of `State` (every other flow is the
fold of the rounds attributed to it – C15 – so `refinement` applies to it with that sub-history). -/
theorem refinement_default_flow (cfg : Agg.Cfg) (hist : List Round) (hwf : ∀ r ∈ hist, RoundWF r) :
    ∃ st fs, State.run (State.new (F := F) cfg) hist = .ok st ∧ lookupFlow st.flows 0 = some fs ∧
      ∀ t, 1 ≤ t → t ≤ 254 →
        ∃ h, fs.hops[t - 1]? = some h ∧ statsOf h = reagg cfg.maxSamples (outcomes t hist) := by
  obtain ⟨st, fs, h1, h3, hR⟩ := default_flow_reached (F := F) cfg hist hwf
  exact ⟨st, fs, h1, h3, hR.stats⟩

/-- the refinement spelled out field by field -/
theorem refinement_fields (ms : Nat) (hist : List Round) (hwf : ∀ r ∈ hist, RoundWF r) :
    ∃ fs, FlowState.run (FlowState.new (F := F) ms) hist = .ok fs ∧
      ∀ t, 1 ≤ t → t ≤ 254 → ∃ h, fs.hops[t - 1]? = some h ∧
        let os := outcomes t hist
        h.totalSent = os.length ∧ h.totalRecv = (rtts os).length ∧
        h.totalFailed = os.countP Outcome.isFailed ∧
        h.totalForwardLost = os.countP (Outcome.hasLoss .forward) ∧
        h.totalBackwardLost = os.countP (Outcome.hasLoss .backward) ∧
        h.totalTime = (rtts os).sum ∧ h.last = (rtts os).getLast? ∧
        h.best = (rtts os).min? ∧ h.worst = (rtts os).max? ∧
        h.samples = (os.reverse.map Outcome.sample).take ms ∧
        h.addrs = addrCounts (hosts os) ∧
        h.lastSequence = (os.getLast?.map fun o => o.probe.seq).getD 0 ∧
        h.lastSrcPort = (os.getLast?.map fun o => o.probe.srcPort).getD 0 ∧
        h.lastDestPort = (os.getLast?.map fun o => o.probe.destPort).getD 0 ∧
        h.lastIcmp = (completes os).getLast?.map (·.kind) ∧
        h.tos = (completes os).getLast?.bind (·.tos) ∧
        h.extensions = (completes os).getLast?.bind (·.ext) ∧
        h.lastNatStatus = ((os.filterMap Outcome.nat).getLast?).getD .notApplicable := by
  obtain ⟨fs, h1, h2⟩ := refinement (F := F) ms hist hwf
  refine ⟨fs, h1, fun t a b => ?_⟩
  obtain ⟨h, k1, k2⟩ := h2 t a b
  exact ⟨h, k1, congrArg Stats.sent k2, congrArg Stats.recv k2, congrArg Stats.failed k2,
    congrArg Stats.forwardLost k2, congrArg Stats.backwardLost k2, congrArg Stats.totalTime k2,
    congrArg Stats.last k2, congrArg Stats.best k2, congrArg Stats.worst k2, congrArg Stats.samples k2,
    congrArg Stats.addrs k2, congrArg Stats.lastSequence k2, congrArg Stats.lastSrcPort k2,
    congrArg Stats.lastDestPort k2, congrArg Stats.lastIcmp k2, congrArg Stats.tos k2,
    congrArg Stats.extensions k2, congrArg Stats.lastNatStatus k2⟩

/-- Jitter: for a number type that converts durations exactly (ℚ), the current jitter is
`|d_n − d_{n−1}|` (absent until there are two responses) and the worst jitter is the maximum of
the series `d₀, |d₁ − d₀|, …`. -/
theorem refinement_jitter [ExactDur F] (ms : Nat) (hist : List Round) (hwf : ∀ r ∈ hist, RoundWF r) :
    ∃ fs, FlowState.run (FlowState.new (F := F) ms) hist = .ok fs ∧
      ∀ t, 1 ≤ t → t ≤ 254 →
        ∃ h, fs.hops[t - 1]? = some h ∧ h.jitter = jitterSpec (outcomes t hist) ∧
          h.jmax = jmaxSpec (outcomes t hist) := by
  obtain ⟨fs, h1, hR⟩ := run_new (F := F) ms hist hwf
  exact ⟨fs, h1, fun t a b => ⟨_, hR.hop t a b, jitter_fold ms _⟩⟩

/-- … in particular over the rationals -/
theorem refinement_jitter_rat (ms : Nat) (hist : List Round) (hwf : ∀ r ∈ hist, RoundWF r) :
    ∃ fs, FlowState.run (FlowState.new (F := Rat) ms) hist = .ok fs ∧
      ∀ t, 1 ≤ t → t ≤ 254 →
        ∃ h, fs.hops[t - 1]? = some h ∧ h.jitter = jitterSpec (outcomes t hist) ∧
          h.jmax = jmaxSpec (outcomes t hist) := refinement_jitter ms hist hwf

/-- the laws, for the statistics of any list of outcomes -/
theorem reagg_laws (ms : Nat) (os : List Outcome) :
    let s := reagg ms os
    s.recv + s.failed ≤ s.sent ∧
    s.recv ≤ s.sent ∧
    ((s.addrs.map (·.2)).sum = s.recv) ∧
    s.forwardLost + s.backwardLost ≤ s.sent - s.recv - s.failed ∧
    s.samples.length ≤ ms ∧
    (∀ b w, s.best = some b → s.worst = some w →
      b ≤ w ∧ b * s.recv ≤ s.totalTime ∧ s.totalTime ≤ w * s.recv) ∧
    (s.recv = 0 ↔ s.best = none) ∧ (s.recv = 0 ↔ s.worst = none) ∧ (s.recv = 0 ↔ s.last = none) := by
  have hc := counts_le os
  simp only [reagg]
  refine ⟨by omega, by omega, ?_, by omega, ?_, ?_, ?_, ?_, ?_⟩
  · rw [addrCounts_sum, hosts_length]
  · simp only [List.length_take]; omega
  · exact fun b w hb hw => best_worst _ b w hb hw
  · rw [List.min?_eq_none_iff, List.length_eq_zero_iff]
  · rw [List.max?_eq_none_iff, List.length_eq_zero_iff]
  · rw [List.getLast?_eq_none_iff, List.length_eq_zero_iff]

/-- Conservation: every hop, after every history. -/
theorem conservation (ms : Nat) (hist : List Round) (hwf : ∀ r ∈ hist, RoundWF r) :
    ∃ fs, FlowState.run (FlowState.new (F := F) ms) hist = .ok fs ∧
      ∀ t, 1 ≤ t → t ≤ 254 → ∃ h, fs.hops[t - 1]? = some h ∧
        h.totalRecv + h.totalFailed ≤ h.totalSent ∧
        h.totalRecv ≤ h.totalSent ∧
        (h.addrs.map (·.2)).sum = h.totalRecv ∧
        h.totalForwardLost + h.totalBackwardLost ≤ h.totalSent - h.totalRecv - h.totalFailed ∧
        h.samples.length ≤ ms ∧
        (∀ b w, h.best = some b → h.worst = some w →
          b ≤ w ∧ b * h.totalRecv ≤ h.totalTime ∧ h.totalTime ≤ w * h.totalRecv) := by
  obtain ⟨fs, h1, h2⟩ := refinement (F := F) ms hist hwf
  refine ⟨fs, h1, fun t a b => ?_⟩
  obtain ⟨h, k1, k2⟩ := h2 t a b
  obtain ⟨l1, l2, l3, l4, l5, l6, _⟩ := reagg_laws ms (outcomes t hist)
  rw [← k2] at l1 l2 l3 l4 l5 l6
  exact ⟨h, k1, l1, l2, l3, l4, l5, l6⟩

/-- `0 ≤ loss ≤ 100` and `best ≤ avg ≤ worst` for the derived getters, over ℚ (they are functions of
the exact fields; in `f64` the same holds up to rounding, checked by the harness oracle). -/
theorem derived_ranges (h : Hop Rat) (hrs : h.totalRecv ≤ h.totalSent) :
    0 ≤ h.lossPct ∧ h.lossPct ≤ 100 ∧
    (∀ b w, h.totalRecv ≠ 0 → b * h.totalRecv ≤ h.totalTime → h.totalTime ≤ w * h.totalRecv →
      (Num.durMs b : Rat) ≤ h.avgMs ∧ h.avgMs ≤ (Num.durMs w : Rat)) :=
  have hp := pct_range (h.totalSent - h.totalRecv) h.totalSent (Nat.sub_le _ _)
  ⟨hp.1, hp.2, avgMs_range h⟩

/-- `mean` (running mean `mean += (x − mean)/n`) is the arithmetic mean of the round-trip times in
ms, hence `avg_ms`'s exact counterpart -/
theorem mean_two_pass (ms : Nat) (hist : List Round) (t : Nat) (h : rtts (outcomes t hist) ≠ []) :
    ((outcomes t hist).foldl (hopStep (F := Rat) ms) Hop.default).mean =
      (msOf (rtts (outcomes t hist))).sum / (rtts (outcomes t hist)).length :=
  mean_is_arithmetic_mean ms _ h

/-- `javg` (`javg += (j − javg)/n`) is the arithmetic mean of the jitter series in ms -/
theorem javg_two_pass (ms : Nat) (hist : List Round) (t : Nat) (h : rtts (outcomes t hist) ≠ []) :
    ((outcomes t hist).foldl (hopStep (F := Rat) ms) Hop.default).javg =
      (msOf (jitters (rtts (outcomes t hist)))).sum / (rtts (outcomes t hist)).length :=
  javg_is_mean_jitter ms _ h

/-- Welford's update `M2 += (x − mean_old)(x − mean_new)` does compute the two-pass quantities:
`n · mean = Σ xᵢ` and `M2 = Σ (xᵢ − mean)²` -/
theorem welford_is_two_pass (xs : List Rat) :
    ((xs.length : Nat) : Rat) * (xs.foldl welfordStep (0, 0, 0)).2.1 = xs.sum ∧
    (xs.foldl welfordStep (0, 0, 0)).2.2 =
      (xs.map fun x => (x - (xs.foldl welfordStep (0, 0, 0)).2.1) * (x - (xs.foldl welfordStep (0, 0, 0)).2.1)).sum :=
  (welford_two_pass xs).2

/-- `m2` (Welford: `delta = x − mean; mean += delta/n; m2 += delta·(x − mean)`) is the sum of squared
deviations of the round-trip times (ms) from their arithmetic mean: over ℚ, for the hop at any ttl
after any history, `n · mean = Σ dᵢ` and `m2 = Σ (dᵢ − mean)²`. -/
theorem welford_m2_two_pass (ms : Nat) (hist : List Round) (t : Nat) :
    let os := outcomes t hist
    let h := os.foldl (hopStep (F := Rat) ms) Hop.default
    ((rtts os).length : Rat) * h.mean = (msOf (rtts os)).sum ∧
    h.m2 = ((msOf (rtts os)).map fun x => (x - h.mean) * (x - h.mean)).sum :=
  m2_is_squared_deviation_sum ms (outcomes t hist)

/-- … hence the quantity under the square root of `stddev_ms` (`m2 / (total_recv − 1)`, taken when
`total_recv > 1`) is the sample variance `Σ (dᵢ − d̄)² / (n − 1)` with `d̄ = Σ dᵢ / n`. -/
theorem variance_two_pass (ms : Nat) (hist : List Round) (t : Nat)
    (hn : 1 < (rtts (outcomes t hist)).length) :
    let os := outcomes t hist
    let h := os.foldl (hopStep (F := Rat) ms) Hop.default
    let dbar := (msOf (rtts os)).sum / ((rtts os).length : Rat)
    h.totalRecv = (rtts os).length ∧
    h.m2 / ((h.totalRecv - 1 : Nat) : Rat) =
      ((msOf (rtts os)).map fun x => (x - dbar) * (x - dbar)).sum / (((rtts os).length - 1 : Nat) : Rat) := by
  intro os h dbar
  have hne : rtts os ≠ [] := by intro h'; simp [os, h'] at hn
  have hmean : h.mean = dbar := mean_is_arithmetic_mean ms os hne
  have hrecv : h.totalRecv = (rtts os).length := congrArg Stats.recv (stats_fold (F := Rat) ms os)
  refine ⟨hrecv, ?_⟩
  rw [(m2_is_squared_deviation_sum ms os).2, hrecv]
  show ((msOf (rtts os)).map fun x => (x - h.mean) * (x - h.mean)).sum / _ = _
  rw [hmean]

/-
Before the repair of state.rs:637-638 the code updated `m2` with the *new* mean in both factors
(`m2 += (x − mean_new)²`), which is Welford's increment scaled by `(n−1)/n`: on the series 1 ms, 3 ms
it gives `m2 = 1`, `stddev_ms = 1` where the sum of squared deviations is 2 (√2).  The harness oracle
kind `c05-stddev` detects it.
-/

def pr (ttl round seq : Nat) : Probe :=
  { seq := seq, ident := 1, srcPort := 5000, destPort := 33434, ttl := ttl, round := round,
    sent := 1000000 * round, flags := 0 }
def cp (ttl round seq host rtt : Nat) : Slot :=
  .complete { probe := pr ttl round seq, host := host, received := 1000000 * round + rtt,
              kind := .timeExceeded 0, tos := some 4, expCk := none, actCk := none, ext := none }
/-- three rounds from first ttl 2: ECMP at ttl 2, loss behind ttl 3 in round 1 (forward loss at 3,
backward loss at 4), a failed probe and a skipped slot in round 2 -/
def exHist : List Round :=
  [ { probes := [cp 2 0 100 20 1000, cp 3 0 101 30 3000, cp 4 0 102 7 9000], largestTtl := 4, reason := .targetFound },
    { probes := [cp 2 1 103 21 5000, .awaited (pr 3 1 104), .awaited (pr 4 1 105)], largestTtl := 3,
      reason := .roundTimeLimitExceeded },
    { probes := [cp 2 2 106 20 2000, .skipped, .failed (pr 3 2 107), cp 4 2 108 7 4000], largestTtl := 4,
      reason := .targetFound } ]

example : ∀ r ∈ exHist, RoundWF r := by decide
example : (reagg 2 (outcomes 2 exHist)).sent = 3 ∧ (reagg 2 (outcomes 2 exHist)).recv = 3 ∧
    (reagg 2 (outcomes 2 exHist)).addrs = [(20, 2), (21, 1)] ∧
    (reagg 2 (outcomes 2 exHist)).samples = [2000, 5000] ∧
    (reagg 2 (outcomes 2 exHist)).best = some 1000 ∧ (reagg 2 (outcomes 2 exHist)).worst = some 5000 := by decide
example : (reagg 0 (outcomes 3 exHist)).forwardLost = 1 ∧ (reagg 0 (outcomes 4 exHist)).backwardLost = 1 ∧
    (reagg 0 (outcomes 3 exHist)).failed = 1 ∧ (reagg 0 (outcomes 3 exHist)).samples = [] := by decide
example : jitterSpec (outcomes 2 exHist) = some 3000 ∧ jmaxSpec (outcomes 2 exHist) = some 4000 := by decide

end TV.Props.C05

#print axioms TV.Props.C05.refinement
#print axioms TV.Props.C05.refinement_default_flow
#print axioms TV.Props.C05.refinement_fields
#print axioms TV.Props.C05.refinement_jitter
#print axioms TV.Props.C05.refinement_jitter_rat
#print axioms TV.Props.C05.reagg_laws
#print axioms TV.Props.C05.conservation
#print axioms TV.Props.C05.derived_ranges
#print axioms TV.Props.C05.mean_two_pass
#print axioms TV.Props.C05.javg_two_pass
#print axioms TV.Props.C05.welford_is_two_pass
#print axioms TV.Props.C05.welford_m2_two_pass
#print axioms TV.Props.C05.variance_two_pass
