import TrippyVerif.Lemmas.Checksum
/-!
C13 (codec half) — Internet checksums.

"For every payload length and content and every address pair, the ICMP, UDP and TCP checksums
the codec computes are the RFC 1071 one's-complement checksum over the (pseudo-header and) data
with the checksum field taken as zero, so that the datagram with the checksum inserted sums to
0xFFFF."

Model : `TV.Cksum.*`   (Model/Checksum.lean, line-by-line from trippy-packet/src/checksum.rs)
Spec  : `TV.Rfc1071.*` (Spec/Rfc1071.lean)

Address arguments are octet lists; `src.length = 4` / `= 16` says "is an `Ipv4Addr` / `Ipv6Addr`".
The bound `d.length ≤ 65535` is the largest upper-layer length an IP datagram can carry (and the
largest the 16-bit length field of the IPv4 pseudo header can express).
-/
namespace TV.C13
open TV.Cksum TV.Rfc1071

theorem fold16_le (n : Nat) : fold16 n ≤ 65535 := Cksum.fold16_le n

theorem fold16_eq_zero_iff (n : Nat) : fold16 n = 0 ↔ n = 0 := by
  have := fold16_spec n
  omega

theorem fold16_mod (n : Nat) : fold16 n % 65535 = n % 65535 := by
  have := fold16_spec n
  omega

/-- the closed form `fold16` *is* the end-around-carry recursion of RFC 1071 §4.1
("fold 32-bit sum to 16 bits"): fixed on 16-bit values, and adding the carry-out back in does
not change it. -/
theorem fold16_end_around_carry (n : Nat) :
    (n < 65536 → fold16 n = n) ∧ fold16 (n / 65536 + n % 65536) = fold16 n :=
  ⟨Cksum.fold16_small, Cksum.fold16_carry n⟩

/-- one iteration of the `while` loop stays inside `u32` (it strictly decreases `sum`; this is
also the termination measure accepted for `finLoop`). -/
theorem finalize_loop_no_overflow (sum : Nat) (hs : sum < 2 ^ 32)
    (hc : (sum >>> 16 != 0) = true) : (sum >>> 16) + (sum &&& 0xFFFF) < 2 ^ 32 :=
  Nat.lt_trans (finStep_lt sum hc) hs

/-- model loop = spec fold -/
theorem finalize_eq_fold16 (n : Nat) (_hn : n < 2 ^ 32) : finalize n = 0xFFFF - fold16 n :=
  Cksum.finalize_eq n

theorem sumBeWords_eq_wordSum (d : List UInt8) (iw : Nat) (h : d.length ≤ 65535) :
    sumBeWords d iw = .ok (wordSum (zeroField iw d)) := Cksum.sumBeWords_ok d iw h

/-- sharper: without any length bound the only other outcome is the accumulator overflow -/
theorem sumBeWords_exact (d : List UInt8) (iw : Nat) :
    sumBeWords d iw =
      if wordSum (zeroField iw d) < 2 ^ 32 then .ok (wordSum (zeroField iw d)) else .panic :=
  Cksum.sumBeWords_exact d iw

-- the skipped word coincides with the odd tail (5 octets, word 2 is the lone last octet)
example : sumBeWords [0x12, 0x34, 0x56, 0x78, 0x9a] 2 = .ok (0x1234 + 0x5678) := by
  rw [sumBeWords_eq_wordSum _ _ (by decide)]; decide
-- the skipped word is an inner one, the odd tail is counted
example : sumBeWords [0x12, 0x34, 0x56, 0x78, 0x9a] 1 = .ok (0x1234 + 0x9a00) := by
  rw [sumBeWords_eq_wordSum _ _ (by decide)]; decide

theorem no_overflow (d src4 dst4 src6 dst6 : List UInt8) (iw : Nat) (p : UInt8)
    (h : d.length ≤ 65535) (h4s : src4.length = 4) (h4d : dst4.length = 4)
    (h6s : src6.length = 16) (h6d : dst6.length = 16) :
    sumBeWords d iw ≠ .panic ∧ checksum d iw ≠ .panic ∧
    ipv4WordSum src4 ≠ .panic ∧ ipv6WordSum src6 ≠ .panic ∧
    ipv4Checksum d iw src4 dst4 p ≠ .panic ∧ ipv6Checksum d iw src6 dst6 p ≠ .panic ∧
    ipv4_header_checksum d ≠ .panic ∧ icmp_ipv4_checksum d ≠ .panic ∧
    icmp_ipv6_checksum d src6 dst6 ≠ .panic ∧ udp_ipv4_checksum d src4 dst4 ≠ .panic ∧
    tcp_ipv4_checksum d src4 dst4 ≠ .panic ∧ udp_ipv6_checksum d src6 dst6 ≠ .panic := by
  have ok {r : R Nat} {x : Nat} (e : r = .ok x) : r ≠ .panic := e ▸ nofun
  have hck (iw : Nat) : checksum d iw ≠ .panic := by
    by_cases he : d = []
    · subst he; exact ok rfl
    · exact ok (checksum_eq iw he h)
  have h4 (iw : Nat) (p : UInt8) := ok (ipv4Checksum_eq iw p h4s h4d h)
  have h6 (iw : Nat) (p : UInt8) := ok (ipv6Checksum_eq iw p h6s h6d h)
  exact ⟨ok (sumBeWords_ok d iw h), hck iw, ok (ipv4WordSum_eq h4s), ok (ipv6WordSum_eq h6s),
    h4 iw p, h6 iw p, hck 5, hck 1, h6 1 _, h4 3 _, h4 8 _, h6 3 _⟩

theorem ipv4_header_checksum_rfc1071 (d : List UInt8) (hne : d ≠ []) (h : d.length ≤ 65535) :
    ipv4_header_checksum d = .ok (ocsum (zeroField 5 d)) := checksum_eq 5 hne h

theorem icmp_ipv4_checksum_rfc1071 (d : List UInt8) (hne : d ≠ []) (h : d.length ≤ 65535) :
    icmp_ipv4_checksum d = .ok (ocsum (zeroField 1 d)) := checksum_eq 1 hne h

/-- F13: on the empty input the two pseudo-header-less functions return 0, RFC 1071 gives
0xFFFF (pinned by the repository's own `test_empty_ipv4_checksum`). -/
theorem checksum_empty_deviation :
    ipv4_header_checksum [] = .ok 0 ∧ icmp_ipv4_checksum [] = .ok 0 ∧
    ocsum (zeroField 5 []) = 0xFFFF ∧ ocsum (zeroField 1 []) = 0xFFFF := by
  refine ⟨rfl, rfl, ?_, ?_⟩ <;> decide

theorem icmp_ipv6_checksum_rfc1071 (d src dst : List UInt8)
    (hs : src.length = 16) (hd : dst.length = 16) (h : d.length ≤ 65535) :
    icmp_ipv6_checksum d src dst = .ok (ocsum (pseudo6 src dst 58 d.length ++ zeroField 1 d)) :=
  ipv6Checksum_eq 1 58 hs hd h

theorem udp_ipv4_checksum_rfc1071 (d src dst : List UInt8)
    (hs : src.length = 4) (hd : dst.length = 4) (h : d.length ≤ 65535) :
    udp_ipv4_checksum d src dst = .ok (ocsum (pseudo4 src dst 17 d.length ++ zeroField 3 d)) :=
  ipv4Checksum_eq 3 17 hs hd h

theorem tcp_ipv4_checksum_rfc1071 (d src dst : List UInt8)
    (hs : src.length = 4) (hd : dst.length = 4) (h : d.length ≤ 65535) :
    tcp_ipv4_checksum d src dst = .ok (ocsum (pseudo4 src dst 6 d.length ++ zeroField 8 d)) :=
  ipv4Checksum_eq 8 6 hs hd h

theorem udp_ipv6_checksum_rfc1071 (d src dst : List UInt8)
    (hs : src.length = 16) (hd : dst.length = 16) (h : d.length ≤ 65535) :
    udp_ipv6_checksum d src dst = .ok (ocsum (pseudo6 src dst 17 d.length ++ zeroField 3 d)) :=
  ipv6Checksum_eq 3 17 hs hd h

/-! ### verification corollaries: the datagram with the checksum inserted sums to 0xFFFF

`verifies x` is `fold16 (wordSum x) = 0xFFFF`; `putField iw c d` stores `c` big-endian in octets
`2*iw`, `2*iw+1` of `d`; the hypothesis `2*iw+1 < d.length` says the field lies inside `d`. -/

theorem ipv4_header_checksum_verifies (d : List UInt8) (h : d.length ≤ 65535)
    (hf : 2 * 5 + 1 < d.length) :
    ∃ c, ipv4_header_checksum d = .ok c ∧ c ≤ 0xFFFF ∧ verifies (putField 5 c d) :=
  verifies_of_eq (pre := []) (checksum_eq 5 (List.ne_nil_of_length_pos (by omega)) h) rfl hf

theorem icmp_ipv4_checksum_verifies (d : List UInt8) (h : d.length ≤ 65535)
    (hf : 2 * 1 + 1 < d.length) :
    ∃ c, icmp_ipv4_checksum d = .ok c ∧ c ≤ 0xFFFF ∧ verifies (putField 1 c d) :=
  verifies_of_eq (pre := []) (checksum_eq 1 (List.ne_nil_of_length_pos (by omega)) h) rfl hf

theorem icmp_ipv6_checksum_verifies (d src dst : List UInt8)
    (hs : src.length = 16) (hd : dst.length = 16) (h : d.length ≤ 65535)
    (hf : 2 * 1 + 1 < d.length) :
    ∃ c, icmp_ipv6_checksum d src dst = .ok c ∧ c ≤ 0xFFFF ∧
      verifies (pseudo6 src dst 58 d.length ++ putField 1 c d) :=
  verifies_of_eq (ipv6Checksum_eq 1 58 hs hd h) (pseudo6_length_even _ _ hs hd) hf

theorem udp_ipv4_checksum_verifies (d src dst : List UInt8)
    (hs : src.length = 4) (hd : dst.length = 4) (h : d.length ≤ 65535)
    (hf : 2 * 3 + 1 < d.length) :
    ∃ c, udp_ipv4_checksum d src dst = .ok c ∧ c ≤ 0xFFFF ∧
      verifies (pseudo4 src dst 17 d.length ++ putField 3 c d) :=
  verifies_of_eq (ipv4Checksum_eq 3 17 hs hd h) (pseudo4_length_even _ _ hs hd) hf

theorem tcp_ipv4_checksum_verifies (d src dst : List UInt8)
    (hs : src.length = 4) (hd : dst.length = 4) (h : d.length ≤ 65535)
    (hf : 2 * 8 + 1 < d.length) :
    ∃ c, tcp_ipv4_checksum d src dst = .ok c ∧ c ≤ 0xFFFF ∧
      verifies (pseudo4 src dst 6 d.length ++ putField 8 c d) :=
  verifies_of_eq (ipv4Checksum_eq 8 6 hs hd h) (pseudo4_length_even _ _ hs hd) hf

theorem udp_ipv6_checksum_verifies (d src dst : List UInt8)
    (hs : src.length = 16) (hd : dst.length = 16) (h : d.length ≤ 65535)
    (hf : 2 * 3 + 1 < d.length) :
    ∃ c, udp_ipv6_checksum d src dst = .ok c ∧ c ≤ 0xFFFF ∧
      verifies (pseudo6 src dst 17 d.length ++ putField 3 c d) :=
  verifies_of_eq (ipv6Checksum_eq 3 17 hs hd h) (pseudo6_length_even _ _ hs hd) hf

end TV.C13

/-! ### the hypotheses are satisfiable: the repository's own test vectors -/

namespace TV.Cksum

/-- `test_tcp_ipv4_checksum`: 10.0.0.103 → 10.0.0.1, 20-octet SYN/ACK, expected 0x55cc -/
def tcpVec : List UInt8 :=
  [0x00, 0x50, 0x80, 0xea, 0x00, 0x00, 0x00, 0x00, 0x95, 0x9d, 0x2e, 0xc7, 0x50, 0x12, 0xff, 0xff,
   0x55, 0xcc, 0x00, 0x00]

/-- `test_ipv4_header_checksum`, expected 0x1e3f -/
def ipVec : List UInt8 :=
  [0x45, 0x00, 0x0f, 0xfc, 0x38, 0xc0, 0x00, 0x00, 0x40, 0x01, 0x2e, 0x3b, 0x0a, 0x00, 0x00, 0x02,
   0x0a, 0x00, 0x00, 0x01]

end TV.Cksum

namespace TV.C13
open TV.Cksum TV.Rfc1071

example : tcp_ipv4_checksum tcpVec [10, 0, 0, 103] [10, 0, 0, 1] = .ok 0x55cc := by
  rw [tcp_ipv4_checksum_rfc1071 _ _ _ rfl rfl (by decide)]; decide

example : 2 * 8 + 1 < tcpVec.length ∧ tcpVec.length ≤ 65535 := by decide

example : verifies (pseudo4 [10, 0, 0, 103] [10, 0, 0, 1] 6 tcpVec.length
    ++ putField 8 0x55cc tcpVec) := by unfold verifies; decide

example : ipv4_header_checksum ipVec = .ok 0x1e3f := by
  rw [ipv4_header_checksum_rfc1071 _ (by decide) (by decide)]; decide

-- `test_empty_ipv6_checksum`: fe80::811:3f6:7601:6c3f → fe80::1c8d:7d69:d0b6:8182, expected
-- 10357 for UDP (empty data is covered by the pseudo-header theorems)
example : udp_ipv6_checksum []
    [0xfe, 0x80, 0, 0, 0, 0, 0, 0, 0x08, 0x11, 0x03, 0xf6, 0x76, 0x01, 0x6c, 0x3f]
    [0xfe, 0x80, 0, 0, 0, 0, 0, 0, 0x1c, 0x8d, 0x7d, 0x69, 0xd0, 0xb6, 0x81, 0x82]
      = .ok 10357 := by
  rw [udp_ipv6_checksum_rfc1071 _ _ _ rfl rfl (by decide)]; decide

-- `test_odd_length`: one zero octet, expected 65535
example : ipv4_header_checksum [0x00] = .ok 65535 := by
  rw [ipv4_header_checksum_rfc1071 _ (by decide) (by decide)]; decide

end TV.C13

#print axioms TV.C13.fold16_le
#print axioms TV.C13.fold16_eq_zero_iff
#print axioms TV.C13.fold16_mod
#print axioms TV.C13.fold16_end_around_carry
#print axioms TV.C13.finalize_loop_no_overflow
#print axioms TV.C13.finalize_eq_fold16
#print axioms TV.C13.sumBeWords_eq_wordSum
#print axioms TV.C13.sumBeWords_exact
#print axioms TV.C13.no_overflow
#print axioms TV.C13.ipv4_header_checksum_rfc1071
#print axioms TV.C13.icmp_ipv4_checksum_rfc1071
#print axioms TV.C13.checksum_empty_deviation
#print axioms TV.C13.icmp_ipv6_checksum_rfc1071
#print axioms TV.C13.udp_ipv4_checksum_rfc1071
#print axioms TV.C13.tcp_ipv4_checksum_rfc1071
#print axioms TV.C13.udp_ipv6_checksum_rfc1071
#print axioms TV.C13.ipv4_header_checksum_verifies
#print axioms TV.C13.icmp_ipv4_checksum_verifies
#print axioms TV.C13.icmp_ipv6_checksum_verifies
#print axioms TV.C13.udp_ipv4_checksum_verifies
#print axioms TV.C13.tcp_ipv4_checksum_verifies
#print axioms TV.C13.udp_ipv6_checksum_verifies
