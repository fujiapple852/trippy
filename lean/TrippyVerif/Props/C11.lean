import TrippyVerif.Lemmas.WireSend
/-!
# C11 — every probe put on the wire is well-formed and as configured
# (with the Paris half of C13 and the wire half of C19)

"Each probe handed to the send socket decodes, with an independent RFC decoder, to a datagram
addressed to the target with the probe's TTL/hop-limit, the configured type-of-service and
don't-fragment set (IPv4), consistent length fields and valid ICMP/UDP checksums.  It carries the
probe's sequence in the field the strategy prescribes (ICMP sequence, UDP port, UDP checksum for
Paris, IP identification or payload length for Dublin) and the trace identifier for ICMP; for ICMP
and classic/Dublin-IPv4 UDP the datagram's total size equals the configured packet size and its
payload is the configured pattern."

* model of the code: `TV.Wire.dispatch` (`Model/Wire.lean`); decoders: `TV.Decode`
  (`Spec/Decode.lean`, RFC 791 / 768 / 792 / 4443); checksum validity: `TV.Rfc1071.verifies`
  over the RFC pseudo header (`pseudoHdr`) and the transport octets, via `Cksum.verifies_of_eq`
  (the lemma the C13 `*_checksum_verifies` theorems are instances of).
* quantifiers: every configuration with well-sized addresses (`c.AddrOk`), every packet size in
  the accepted range, every TOS and pattern octet, every probe whose fields are machine values
  (`ProbeOk`: 16-bit sequence / identifier / ports, 8-bit TTL).  `emitted` ties the probe to
  `Strat.probeData`, i.e. to each protocol × strategy × port-direction cell.
* where the kernel builds the IP header (IPv6 always; unprivileged UDP; TCP) the theorem states the
  exact socket calls: hop limit / TTL / TOS options, bind and destination addresses and ports and
  the octets handed to `send_to`.
* UDP over IPv6 is decoded with `decodeUDP6`, which rejects a zero checksum field (RFC 8200
  §8.1); the code maps a computed 0x0000 to 0xFFFF (`makeUdp`, `makeUdp_nonzero6`,
  `verifies_allones`).  Over IPv4 a computed 0x0000 is sent as 0 ("no checksum", RFC 768) and
  `decodeUDP` accepts it.
* nothing is partial, with one *stated* residual: with the Paris strategy the checksum *field* is
  the sequence number by design, so over IPv6 the datagram for sequence 0 is invalid
  (`udp_v6_paris` has the hypothesis `p.seq ≠ 0`; `udp_v6_paris_sequence_zero` shows it is
  necessary).  The datagram still sums to 0xFFFF (`verifies`).
-/
namespace TV.Props.C11
open TV.Wire TV.Rfc1071 TV.Decode

/-- the IPv4 header every raw IPv4 probe must decode to -/
def ip4Expected (c : ChanCfg) (total ident ttl proto : Nat) : IPv4Hdr :=
  { version := 4, ihl := 5, tos := c.tos.toNat, totalLength := total, ident := ident,
    reserved := false, df := true, mf := false, fragOffset := 0, ttl := ttl, proto := proto,
    headerChecksum := 0, src := c.src, dst := c.dst, options := [] }

/-- **ICMP / IPv4.**  One `send_to` of an IPv4 datagram of exactly `packetSize` octets to the
target: header as configured (TOS, DF, no fragmentation, TTL, protocol 1, total length = buffer
length, identification 0), Echo Request with the trace identifier, the sequence, the pattern
payload and a valid checksum. -/
theorem icmp_v4 (c : ChanCfg) (hc : c.AddrOk) (hv : c.v6 = false) (hp : c.proto = .icmp)
    (hsz : 28 ≤ c.packetSize ∧ c.packetSize ≤ 1024) (p : Strat.Probe) (hpr : ProbeOk p) :
    ∃ bytes ck, dispatch c p = .ok [.sendTo bytes c.dst 0] ∧ bytes.length = c.packetSize ∧
      decodeIPv4 bytes = some (ip4Expected c c.packetSize 0 p.ttl 1,
         echoPkt c ck p.ident p.seq (c.packetSize - 28)) ∧
      decodeIcmpEcho (echoPkt c ck p.ident p.seq (c.packetSize - 28)) =
        some { type := 8, code := 0, checksum := ck, ident := p.ident, seq := p.seq,
               data := List.replicate (c.packetSize - 28) c.pattern } ∧
      verifies (echoPkt c ck p.ident p.seq (c.packetSize - 28)) := by
  obtain ⟨hs, hd⟩ := addr4 c hc hv
  obtain ⟨ck, hck, hver, hdisp⟩ := dispatch_icmp c hc hp (sizeOk_v4 hv hsz) p
  simp only [paySize, sendRaw_v4 hv, hv, Bool.false_eq_true, if_false, List.nil_append] at hver hdisp
  have hel := echoPkt_length c ck p.ident p.seq (c.packetSize - 28)
  refine ⟨_, ck, hdisp, by rw [ip4Bytes_length c hs hd, hel]; omega, ?_, ?_, hver⟩
  · rw [decodeIPv4_ip4Bytes c hs hd (by omega) hpr.ttl (by omega), hel,
      show 20 + (8 + (c.packetSize - 28)) = c.packetSize by omega]
    rfl
  · rw [decodeIcmpEcho_echoPkt c ck (by omega) hpr.ident hpr.seq]
    simp [hv]

/-- **ICMP / IPv6.**  `set_unicast_hops_v6(ttl)` then one `send_to` of the ICMPv6 Echo Request to
the target; with the 40-octet IPv6 header the kernel adds the datagram has `packetSize` octets;
the checksum is valid over the RFC 8200 pseudo header. -/
theorem icmp_v6 (c : ChanCfg) (hc : c.AddrOk) (hv : c.v6 = true) (hp : c.proto = .icmp)
    (hsz : 48 ≤ c.packetSize ∧ c.packetSize ≤ 1024) (p : Strat.Probe) (hpr : ProbeOk p) :
    ∃ ck, dispatch c p =
        .ok [.setHops p.ttl, .sendTo (echoPkt c ck p.ident p.seq (c.packetSize - 48)) c.dst 0] ∧
      (echoPkt c ck p.ident p.seq (c.packetSize - 48)).length + 40 = c.packetSize ∧
      decodeIcmpEcho (echoPkt c ck p.ident p.seq (c.packetSize - 48)) =
        some { type := 128, code := 0, checksum := ck, ident := p.ident, seq := p.seq,
               data := List.replicate (c.packetSize - 48) c.pattern } ∧
      verifies (pseudoHdr c 58 (8 + (c.packetSize - 48)) ++
        echoPkt c ck p.ident p.seq (c.packetSize - 48)) := by
  obtain ⟨ck, hck, hver, hdisp⟩ := dispatch_icmp c hc hp (sizeOk_v6 hv hsz) p
  simp only [paySize, sendRaw_v6 hv, hv, if_true] at hver hdisp
  refine ⟨ck, hdisp, by rw [echoPkt_length]; omega, ?_, hver⟩
  rw [decodeIcmpEcho_echoPkt c ck (by omega) hpr.ident hpr.seq]
  simp [hv]

/-- **UDP / IPv4 / raw socket, classic and Dublin** (no Paris flag).  One `send_to` of an IPv4
datagram of exactly `packetSize` octets: header as configured with the probe's identifier as IP
identification (the Dublin sequence carrier), UDP header with the probe's ports, length = 8 +
payload, pattern payload and a valid checksum over the RFC 768 pseudo header. -/
theorem udp_v4_raw (c : ChanCfg) (hc : c.AddrOk) (hv : c.v6 = false) (hp : c.proto = .udp)
    (hpriv : c.privileged = true) (hsz : 28 ≤ c.packetSize ∧ c.packetSize ≤ 1024)
    (p : Strat.Probe) (hpr : ProbeOk p) (hfl : isParis p.flags = false) :
    ∃ bytes ck, dispatch c p = .ok [.sendTo bytes c.dst p.destPort] ∧
      bytes.length = c.packetSize ∧
      decodeIPv4 bytes = some (ip4Expected c c.packetSize p.ident p.ttl 17,
        udpPkt p.srcPort p.destPort ck (List.replicate (c.packetSize - 28) c.pattern)) ∧
      decodeUDP (udpPkt p.srcPort p.destPort ck (List.replicate (c.packetSize - 28) c.pattern)) =
        some ({ srcPort := p.srcPort, dstPort := p.destPort, length := 8 + (c.packetSize - 28),
                checksum := ck }, List.replicate (c.packetSize - 28) c.pattern) ∧
      verifies (pseudoHdr c 17 (8 + (c.packetSize - 28)) ++
        udpPkt p.srcPort p.destPort ck (List.replicate (c.packetSize - 28) c.pattern)) ∧
      calcUdpChecksum c p.srcPort p.destPort (c.packetSize - 28) = .ok ck := by
  obtain ⟨hs, hd⟩ := addr4 c hc hv
  obtain ⟨ck, hck, hm, hver, -, hdisp⟩ := dispatch_udp_raw c hc hp hpriv (sizeOk_v4 hv hsz) p
    (by simp [hv])
  have hpl : rawPayload c p = List.replicate (c.packetSize - 28) c.pattern := by
    rw [rawPayload_pattern hfl (by simp [hv]), paySize, hv]
    rfl
  simp only [rawUdp_of_not_paris c ck hfl, sendRaw_v4 hv, hpl, List.length_replicate] at hm hver hdisp
  have hul := udpPkt_length p.srcPort p.destPort ck (List.replicate (c.packetSize - 28) c.pattern)
  simp only [List.length_replicate] at hul
  refine ⟨_, ck, hdisp, by rw [ip4Bytes_length c hs hd, hul]; omega, ?_, ?_, hver, ?_⟩
  · rw [decodeIPv4_ip4Bytes c hs hd (by omega) hpr.ttl hpr.ident, hul,
      show 20 + (8 + (c.packetSize - 28)) = c.packetSize by omega]
    rfl
  · rw [decodeUDP_udpPkt hpr.srcPort hpr.destPort (by omega) (by simp; omega)]
    simp
  · refine calcUdpChecksum_eq ?_ hm
    rw [(sizes c).udpPayload, hv]
    simp only [Bool.false_eq_true, if_false]
    omega

/-- **C19, wire half.**  For an unmodified Dublin/IPv4 quotation the expected checksum
(`calc_udp_checksum` on the quoted ports and payload length) is the checksum that was dispatched:
`make_udp_packet` and `calc_udp_checksum` agree for every port pair, payload length and pattern. -/
theorem expected_checksum_matches_dispatch (c : ChanCfg) (hc : c.AddrOk) (sp dp n : Nat)
    (hn : n ≤ maxUdpPayload c) :
    ∃ ck, makeUdp c sp dp (List.replicate n c.pattern) =
        .ok (ck, udpPkt sp dp ck (List.replicate n c.pattern)) ∧
      calcUdpChecksum c sp dp n = .ok ck := by
  have hbuf := (sizes c).udpBuf
  obtain ⟨ck, _, hm, _⟩ := makeUdp_spec c hc sp dp (List.replicate n c.pattern) (by simp; omega)
  exact ⟨ck, hm, calcUdpChecksum_eq hn hm⟩

/-- **C13, Paris half.**  For every sequence number (and ports, addresses, family) the Paris
datagram has the sequence in its checksum field, the checksum `make_udp_packet` computed in its
two payload octets, and still verifies over the pseudo header. -/
theorem paris_checksum_is_sequence_and_verifies (c : ChanCfg) (hc : c.AddrOk) (sp dp seq : Nat)
    (h1 : sp < 65536) (h2 : dp < 65536) (h3 : seq < 65536) :
    ∃ ck, ck ≤ 0xFFFF ∧ makeUdpParis c sp dp seq = .ok (parisPkt sp dp seq ck) ∧
      decodeUDP (parisPkt sp dp seq ck) =
        some ({ srcPort := sp, dstPort := dp, length := 10, checksum := seq }, [hi ck, lo ck]) ∧
      verifies (pseudoHdr c 17 10 ++ parisPkt sp dp seq ck) := by
  obtain ⟨ck, hck, hm, hver⟩ := makeUdpParis_spec c hc sp dp seq
  exact ⟨ck, hck, hm, decodeUDP_udpPkt (payload := [hi ck, lo ck]) h1 h2 h3 (by simp), hver⟩

/-- **UDP / IPv4 / raw socket, Paris.**  The datagram is 30 octets whatever the configured size. -/
theorem udp_v4_paris (c : ChanCfg) (hc : c.AddrOk) (hv : c.v6 = false) (hp : c.proto = .udp)
    (hpriv : c.privileged = true) (hsz : 28 ≤ c.packetSize ∧ c.packetSize ≤ 1024)
    (p : Strat.Probe) (hpr : ProbeOk p) (hfl : isParis p.flags = true) :
    ∃ bytes ck, dispatch c p = .ok [.sendTo bytes c.dst p.destPort] ∧ bytes.length = 30 ∧
      decodeIPv4 bytes = some (ip4Expected c 30 p.ident p.ttl 17,
        parisPkt p.srcPort p.destPort p.seq ck) ∧
      decodeUDP (parisPkt p.srcPort p.destPort p.seq ck) =
        some ({ srcPort := p.srcPort, dstPort := p.destPort, length := 10, checksum := p.seq },
              [hi ck, lo ck]) ∧
      verifies (pseudoHdr c 17 10 ++ parisPkt p.srcPort p.destPort p.seq ck) := by
  obtain ⟨hs, hd⟩ := addr4 c hc hv
  obtain ⟨ck, hck, -, hver, -, hdisp⟩ := dispatch_udp_raw c hc hp hpriv (sizeOk_v4 hv hsz) p
    (by simp [hfl])
  simp only [rawUdp_paris c ck hfl, rawPayload_paris c hfl, sendRaw_v4 hv, List.length_cons,
    List.length_nil] at hver hdisp
  refine ⟨_, ck, hdisp, by rw [ip4Bytes_length c hs hd]; rfl, ?_,
    decodeUDP_udpPkt (payload := [hi ck, lo ck]) hpr.srcPort hpr.destPort hpr.seq (by simp), hver⟩
  rw [decodeIPv4_ip4Bytes c hs hd (by simp [parisPkt]) hpr.ttl hpr.ident]
  rfl

/-- **UDP / IPv6 / raw socket, classic** (neither flag).  Hop limit option, then the UDP datagram
to the target (port 0 in the socket address: the port is in the UDP header). -/
theorem udp_v6_raw (c : ChanCfg) (hc : c.AddrOk) (hv : c.v6 = true) (hp : c.proto = .udp)
    (hpriv : c.privileged = true) (hsz : 48 ≤ c.packetSize ∧ c.packetSize ≤ 1024)
    (p : Strat.Probe) (hpr : ProbeOk p) (hfl : isParis p.flags = false)
    (hfd : isDublin p.flags = false) :
    ∃ ck, dispatch c p = .ok [.setHops p.ttl,
        .sendTo (udpPkt p.srcPort p.destPort ck (List.replicate (c.packetSize - 48) c.pattern)) c.dst 0] ∧
      (udpPkt p.srcPort p.destPort ck (List.replicate (c.packetSize - 48) c.pattern)).length + 40 =
        c.packetSize ∧
      decodeUDP6 (udpPkt p.srcPort p.destPort ck (List.replicate (c.packetSize - 48) c.pattern)) =
        some ({ srcPort := p.srcPort, dstPort := p.destPort, length := 8 + (c.packetSize - 48),
                checksum := ck }, List.replicate (c.packetSize - 48) c.pattern) ∧
      verifies (pseudoHdr c 17 (8 + (c.packetSize - 48)) ++
        udpPkt p.srcPort p.destPort ck (List.replicate (c.packetSize - 48) c.pattern)) := by
  obtain ⟨ck, hck, hm, hver, -, hdisp⟩ := dispatch_udp_raw c hc hp hpriv (sizeOk_v6 hv hsz) p
    (by simp [hfd])
  have hpl : rawPayload c p = List.replicate (c.packetSize - 48) c.pattern := by
    rw [rawPayload_pattern hfl (by simp [hfd]), paySize, hv]
    rfl
  simp only [rawUdp_of_not_paris c ck hfl, sendRaw_v6 hv, hpl, List.length_replicate] at hm hver hdisp
  refine ⟨ck, hdisp, by rw [udpPkt_length, List.length_replicate]; omega, ?_, hver⟩
  rw [decodeUDP6_udpPkt hpr.srcPort hpr.destPort (by omega) (by simp; omega),
    if_neg (makeUdp_nonzero6 hv hm)]
  simp

/-- **UDP / IPv6 / raw socket, Dublin.**  The payload is the magic prefix followed by
`sequence − initial_sequence` pattern octets: the sequence is `initial + (payload length − 6)`.
(`hwin`: the sequence lies in the window the strategy uses, `initial ≤ seq ≤ initial + 970`;
the state machine keeps it within `initial + 512`.) -/
theorem udp_v6_dublin (c : ChanCfg) (hc : c.AddrOk) (hv : c.v6 = true) (hp : c.proto = .udp)
    (hpriv : c.privileged = true) (hsz : 48 ≤ c.packetSize ∧ c.packetSize ≤ 1024)
    (p : Strat.Probe) (hpr : ProbeOk p) (hfl : isParis p.flags = false)
    (hfd : isDublin p.flags = true) (hwin : c.initialSeq ≤ p.seq ∧ p.seq - c.initialSeq ≤ 970) :
    ∃ ck payload, dispatch c p = .ok [.setHops p.ttl,
        .sendTo (udpPkt p.srcPort p.destPort ck payload) c.dst 0] ∧
      payload = Consts.net6_MAGIC ++ List.replicate (p.seq - c.initialSeq) c.pattern ∧
      c.initialSeq + (payload.length - 6) = p.seq ∧
      decodeUDP6 (udpPkt p.srcPort p.destPort ck payload) =
        some ({ srcPort := p.srcPort, dstPort := p.destPort, length := 8 + payload.length,
                checksum := ck }, payload) ∧
      verifies (pseudoHdr c 17 (8 + payload.length) ++ udpPkt p.srcPort p.destPort ck payload) := by
  obtain ⟨ck, hck, hm, hver, -, hdisp⟩ := dispatch_udp_raw c hc hp hpriv (sizeOk_v6 hv hsz) p
    (fun _ _ _ => hwin)
  simp only [rawUdp_of_not_paris c ck hfl, rawPayload_dublin6 hfl hv hfd, sendRaw_v6 hv]
    at hm hver hdisp
  have hplen : (Consts.net6_MAGIC ++ List.replicate (p.seq - c.initialSeq) c.pattern).length =
      6 + (p.seq - c.initialSeq) := by
    simp [magic_length]
  refine ⟨ck, _, hdisp, rfl, by rw [hplen]; omega, ?_, hver⟩
  rw [decodeUDP6_udpPkt hpr.srcPort hpr.destPort (by omega) (by rw [hplen]; omega),
    if_neg (makeUdp_nonzero6 hv hm)]

/-- **UDP / IPv6 / raw socket, Paris.**  The checksum field *is* the sequence number, so the
datagram is a valid UDP/IPv6 datagram (RFC 8200 §8.1: checksum ≠ 0) exactly when the sequence is
not 0: hypothesis `hseq0`.  Sequence 0 is reachable only with `--initial-sequence 0` (first probe
of a round); `udp_v6_paris_sequence_zero` shows the hypothesis cannot be dropped. -/
theorem udp_v6_paris (c : ChanCfg) (hc : c.AddrOk) (hv : c.v6 = true) (hp : c.proto = .udp)
    (hpriv : c.privileged = true) (hsz : 48 ≤ c.packetSize ∧ c.packetSize ≤ 1024)
    (p : Strat.Probe) (hpr : ProbeOk p) (hfl : isParis p.flags = true) (hseq0 : p.seq ≠ 0) :
    ∃ ck, dispatch c p = .ok [.setHops p.ttl,
        .sendTo (parisPkt p.srcPort p.destPort p.seq ck) c.dst 0] ∧
      decodeUDP6 (parisPkt p.srcPort p.destPort p.seq ck) =
        some ({ srcPort := p.srcPort, dstPort := p.destPort, length := 10, checksum := p.seq },
              [hi ck, lo ck]) ∧
      verifies (pseudoHdr c 17 10 ++ parisPkt p.srcPort p.destPort p.seq ck) := by
  obtain ⟨ck, hck, -, hver, -, hdisp⟩ := dispatch_udp_raw c hc hp hpriv (sizeOk_v6 hv hsz) p
    (by simp [hfl])
  simp only [rawUdp_paris c ck hfl, rawPayload_paris c hfl, sendRaw_v6 hv, List.length_cons,
    List.length_nil] at hver hdisp
  refine ⟨ck, hdisp, ?_, hver⟩
  rw [parisPkt_eq, decodeUDP6_udpPkt hpr.srcPort hpr.destPort hpr.seq (by simp),
    if_neg hseq0]
  rfl

/-- **Known residual (Paris / IPv6 / sequence 0).**  With the Paris strategy the UDP checksum
field carries the sequence number by design; for sequence 0 the model — like the code — puts
0x0000 in the checksum field of a UDP/IPv6 datagram, which RFC 8200 §8.1 declares invalid
(`decodeUDP6 = none`), for every configuration, port pair and TTL.  Hence `hseq0` in
`udp_v6_paris` is necessary. -/
theorem udp_v6_paris_sequence_zero (c : ChanCfg) (hc : c.AddrOk) (hv : c.v6 = true)
    (hp : c.proto = .udp) (hpriv : c.privileged = true)
    (hsz : 48 ≤ c.packetSize ∧ c.packetSize ≤ 1024)
    (p : Strat.Probe) (hpr : ProbeOk p) (hfl : isParis p.flags = true) (hseq0 : p.seq = 0) :
    ∃ ck, dispatch c p = .ok [.setHops p.ttl,
        .sendTo (parisPkt p.srcPort p.destPort 0 ck) c.dst 0] ∧
      (parisPkt p.srcPort p.destPort 0 ck).drop 6 = [0, 0, hi ck, lo ck] ∧
      decodeUDP6 (parisPkt p.srcPort p.destPort 0 ck) = none := by
  obtain ⟨ck, -, -, -, -, hdisp⟩ := dispatch_udp_raw c hc hp hpriv (sizeOk_v6 hv hsz) p
    (by simp [hfl])
  simp only [rawUdp_paris c ck hfl, sendRaw_v6 hv, hseq0] at hdisp
  refine ⟨ck, hdisp, by simp [parisPkt, hi, lo], ?_⟩
  rw [parisPkt_eq, decodeUDP6_udpPkt hpr.srcPort hpr.destPort (by omega) (by simp),
    if_pos rfl]

/-- concrete witness of the same: fd00::1 → fd00::7, ports 5000 → 33434, sequence 0 -/
theorem udp_v6_paris_sequence_zero_witness :
    ∃ ck, makeUdpParis
        { v6 := true, src := [0xfd, 0, 0, 0, 0, 0, 0, 0, 0, 0, 0, 0, 0, 0, 0, 1],
          dst := [0xfd, 0, 0, 0, 0, 0, 0, 0, 0, 0, 0, 0, 0, 0, 0, 7], packetSize := 84,
          pattern := 0, privileged := true, tos := 0, proto := .udp, extEnabled := false,
          initialSeq := 0 } 5000 33434 0 =
        .ok [0x13, 0x88, 0x82, 0x9a, 0, 10, 0, 0, hi ck, lo ck] ∧
      decodeUDP6 [0x13, 0x88, 0x82, 0x9a, 0, 10, 0, 0, hi ck, lo ck] = none := by
  obtain ⟨ck, _, hm, _⟩ := makeUdpParis_spec
    { v6 := true, src := [0xfd, 0, 0, 0, 0, 0, 0, 0, 0, 0, 0, 0, 0, 0, 0, 1],
      dst := [0xfd, 0, 0, 0, 0, 0, 0, 0, 0, 0, 0, 0, 0, 0, 0, 7], packetSize := 84,
      pattern := 0, privileged := true, tos := 0, proto := .udp, extEnabled := false,
      initialSeq := 0 } (by decide) 5000 33434 0
  refine ⟨ck, ?_, ?_⟩
  · rw [hm]; simp [parisPkt, hi, lo]
  · simp [decodeUDP6, decodeUDP, u16]

/-- **UDP, unprivileged** (both families): a fresh datagram socket bound to the source address and
the probe's source port, TTL / hop limit and (IPv4) TOS set from the probe and the configuration,
and the pattern payload of `packetSize − headers` octets sent to the target and the probe's
destination port.  The kernel builds the IP and UDP headers. -/
theorem udp_unprivileged (c : ChanCfg) (hp : c.proto = .udp) (hpriv : c.privileged = false)
    (hsz : (if c.v6 then 48 else 28) ≤ c.packetSize ∧ c.packetSize ≤ 1024) (p : Strat.Probe) :
    dispatch c p = .ok
      (if c.v6 then
        [.newSocket (.udp6 false), .bind c.src p.srcPort, .setHops p.ttl,
         .sendTo (List.replicate (c.packetSize - 48) c.pattern) c.dst p.destPort]
       else
        [.newSocket (.udp4 false), .bind c.src p.srcPort, .setTtl p.ttl, .setTos c.tos.toNat,
         .sendTo (List.replicate (c.packetSize - 28) c.pattern) c.dst p.destPort]) := by
  rw [dispatch_udp_nonraw c hp hpriv (sizeOk_iff.2 hsz) p, paySize]
  unfold dispatchUdpNonRaw
  split <;> rfl

/-- **TCP** (both families): a fresh stream socket bound to the source address and source port,
TTL / hop limit (and IPv4 TOS) set, then `connect` to the target and the destination port. -/
theorem tcp (c : ChanCfg) (hp : c.proto = .tcp) (p : Strat.Probe) :
    dispatch c p = .ok
      (if c.v6 then
        [.newSocket .stream6, .bind c.src p.srcPort, .setHops p.ttl, .connect c.dst p.destPort]
       else
        [.newSocket .stream4, .bind c.src p.srcPort, .setTtl p.ttl, .setTos c.tos.toNat,
         .connect c.dst p.destPort]) := by
  rw [dispatch_tcp c hp p, dispatchTcp]

/-- a packet size below the minimum (28 / 48) or above 1024 is refused with
`Error::InvalidPacketSize` for ICMP and UDP — nothing is sent, nothing panics -/
theorem size_out_of_range (c : ChanCfg) (hp : c.proto ≠ .tcp) (p : Strat.Probe)
    (hsz : c.packetSize < (if c.v6 then 48 else 28) ∨ 1024 < c.packetSize) :
    dispatch c p = .err .invalidPacketSize := by
  have hcond : ¬ SizeOk c := by
    rw [sizeOk_iff]
    omega
  cases hpr : c.proto with
  | icmp => simp only [dispatch, hpr, dispatchIcmp, if_pos (mt (sizeOk_iff_icmp c).2 hcond)]
  | udp => simp only [dispatch, hpr, dispatchUdp, if_pos (mt (sizeOk_iff_udp c).2 hcond)]
  | tcp => exact absurd hpr hp

/-- in the accepted range nothing is refused and, for probes the strategy can emit, nothing
panics: every case above returns `ok`.  (Outside the Dublin/IPv6 window the `u16` subtraction
`sequence - initial_sequence` or the payload slice would panic: `dublin_v6_outside_window`.) -/
theorem dublin_v6_outside_window (c : ChanCfg) (hv : c.v6 = true)
    (hp : c.proto = .udp) (hpriv : c.privileged = true)
    (hsz : 48 ≤ c.packetSize ∧ c.packetSize ≤ 1024) (p : Strat.Probe)
    (hfl : isParis p.flags = false) (hfd : isDublin p.flags = true)
    (hout : p.seq < c.initialSeq ∨ p.seq - c.initialSeq > 970) :
    dispatch c p = .panic := by
  rw [dispatch_udp_eq c hp (sizeOk_v6 hv hsz), if_pos hpriv]
  simp only [dispatchUdpRaw, hfl, hfd, hv, Bool.and_true, Bool.false_eq_true, if_false, if_true]
  by_cases h : c.initialSeq ≤ p.seq
  · have h2 : p.seq - c.initialSeq + Consts.net6_MAGIC.length > maxUdpPayload c := by
      rw [magic_length, (sizes c).udpPayload, hv]
      simp only [if_true]
      omega
    simp [Strat.subU, h, h2]
  · simp [Strat.subU, h]

def Compat (c : ChanCfg) (s : Strat.Cfg) : Prop :=
  c.v6 = s.v6 ∧ c.proto = s.proto ∧ c.initialSeq = s.initialSeq

/-- the probe `TracerState::next_probe` emits in state `ts` -/
def emitted (s : Strat.Cfg) (ts : Strat.TS) (ttl : Nat) : R Strat.Probe := do
  let (sp, dp, id, fl) ← Strat.probeData s ts
  pure { seq := ts.sequence, ident := id, srcPort := sp, destPort := dp, ttl := ttl,
         round := ts.round, sent := ts.now, flags := fl }

/-- **Where the sequence travels** — for every cell of `probe_data` (protocol × strategy × port
direction) the emitted probe has: ICMP: identifier = trace id, no flags (sequence in the ICMP
sequence field by `icmp_v4` / `icmp_v6`); UDP classic / TCP: the variable port = sequence;
Paris: the Paris flag (checksum field = sequence by `udp_v4_paris` / `udp_v6_paris`); Dublin:
identifier = sequence (IP identification by `udp_v4_raw`) and the Dublin flag, no Paris flag
(payload length by `udp_v6_dublin`). -/
theorem sequence_location (s : Strat.Cfg) (ts : Strat.TS) (ttl : Nat) (p : Strat.Probe)
    (h : emitted s ts ttl = .ok p) :
    p.seq = ts.sequence ∧ p.ttl = ttl ∧
    (match s.proto, s.strat, s.portDir with
     | .icmp, _, _ => p.ident = s.traceId ∧ isParis p.flags = false ∧ isDublin p.flags = false
     | .udp, .classic, .fixedSrc sp => p.srcPort = sp ∧ p.destPort = p.seq ∧
         isParis p.flags = false ∧ isDublin p.flags = false
     | .udp, .classic, .fixedDest dp => p.destPort = dp ∧ p.srcPort = p.seq ∧
         isParis p.flags = false ∧ isDublin p.flags = false
     | .udp, .paris, .fixedSrc sp => p.srcPort = sp ∧ isParis p.flags = true
     | .udp, .paris, .fixedDest dp => p.destPort = dp ∧ isParis p.flags = true
     | .udp, .paris, .fixedBoth sp dp => p.srcPort = sp ∧ p.destPort = dp ∧ isParis p.flags = true
     | .udp, .dublin, .fixedSrc sp => p.srcPort = sp ∧ p.ident = p.seq ∧
         isParis p.flags = false ∧ isDublin p.flags = true
     | .udp, .dublin, .fixedDest dp => p.destPort = dp ∧ p.ident = p.seq ∧
         isParis p.flags = false ∧ isDublin p.flags = true
     | .udp, .dublin, .fixedBoth sp dp => p.srcPort = sp ∧ p.destPort = dp ∧ p.ident = p.seq ∧
         isParis p.flags = false ∧ isDublin p.flags = true
     | .tcp, _, .fixedSrc sp => p.srcPort = sp ∧ p.destPort = p.seq
     | .tcp, _, .fixedDest dp => p.destPort = dp ∧ p.srcPort = p.seq
     | _, _, _ => False) := by
  unfold emitted at h
  revert h
  fun_cases Strat.probeData s ts
  all_goals intro h
  all_goals cases h
  all_goals simp [*, isParis, isDublin]

/-- the emitted probe's fields are machine values when the configuration's are -/
theorem emitted_probeOk (s : Strat.Cfg) (ts : Strat.TS) (ttl : Nat) (p : Strat.Probe)
    (h : emitted s ts ttl = .ok p) (hseq : ts.sequence < 65536) (httl : ttl ≤ 255)
    (hid : s.traceId < 65536)
    (hpd : match s.portDir with
      | .fixedSrc a => a < 65536 | .fixedDest a => a < 65536
      | .fixedBoth a b => a < 65536 ∧ b < 65536 | .none => True) : ProbeOk p := by
  have hrp : Strat.roundPort s ts < 65536 := by unfold Strat.roundPort; omega
  unfold emitted at h
  revert h
  fun_cases Strat.probeData s ts
  all_goals intro h
  all_goals cases h
  all_goals simp [*, ProbeOk] at hpd ⊢
  all_goals omega

def sampleCfg : ChanCfg :=
  { v6 := false, src := [10, 0, 0, 1], dst := [10, 0, 0, 7], packetSize := 84, pattern := 0x55,
    privileged := true, tos := 0x28, proto := .udp, extEnabled := false, initialSeq := 33434 }

/-- a Dublin probe (identifier = sequence) -/
def sampleProbe : Strat.Probe :=
  { seq := 33500, ident := 33500, srcPort := 5000, destPort := 33434, ttl := 7, round := 0,
    sent := 0, flags := 2 }

example : sampleCfg.AddrOk ∧ sampleCfg.v6 = false ∧ sampleCfg.proto = .udp ∧
    sampleCfg.privileged = true ∧ (28 ≤ sampleCfg.packetSize ∧ sampleCfg.packetSize ≤ 1024) ∧
    ProbeOk sampleProbe ∧ isParis sampleProbe.flags = false := by
  refine ⟨by decide, rfl, rfl, rfl, by decide, by simp [ProbeOk, sampleProbe], by decide⟩

example : ProbeOk { sampleProbe with flags := 1 } ∧ isParis 1 = true := by
  refine ⟨by simp [ProbeOk, sampleProbe], by decide⟩

example : emitted
    { v6 := false, target := 167772167, proto := .udp, traceId := 0, maxRounds := none,
      firstTtl := 1, maxTtl := 64, grace := 0, maxInflight := 24, initialSeq := 33434,
      strat := .dublin, portDir := .fixedSrc 5000, minRound := 0, maxRound := 0 }
    { buffer := [], sequence := 33500, roundSeq := 33434, ttl := 7, round := 0, roundStart := 0,
      targetFound := false, maxRecvTtl := none, targetTtl := none, recvTime := none, now := 0 }
    7 = .ok sampleProbe := by
  decide

end TV.Props.C11

#print axioms TV.Props.C11.icmp_v4
#print axioms TV.Props.C11.icmp_v6
#print axioms TV.Props.C11.udp_v4_raw
#print axioms TV.Props.C11.expected_checksum_matches_dispatch
#print axioms TV.Props.C11.paris_checksum_is_sequence_and_verifies
#print axioms TV.Props.C11.udp_v4_paris
#print axioms TV.Props.C11.udp_v6_raw
#print axioms TV.Props.C11.udp_v6_dublin
#print axioms TV.Props.C11.udp_v6_paris
#print axioms TV.Props.C11.udp_v6_paris_sequence_zero
#print axioms TV.Props.C11.udp_v6_paris_sequence_zero_witness
#print axioms TV.Props.C11.udp_unprivileged
#print axioms TV.Props.C11.tcp
#print axioms TV.Props.C11.size_out_of_range
#print axioms TV.Props.C11.dublin_v6_outside_window
#print axioms TV.Props.C11.sequence_location
#print axioms TV.Props.C11.emitted_probeOk
