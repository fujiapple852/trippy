import TrippyVerif.Lemmas.Ext
/-!
# C14 — ICMP multi-part extensions (RFC 4884) and MPLS label stacks (RFC 4950)

"For any ICMP Time Exceeded or Destination Unreachable message built according to RFC 4884
(compliant length field, or the legacy 128-octet convention) carrying any sequence of extension
objects including MPLS label stacks (RFC 4950), the tracer recovers the original datagram unchanged
and reports exactly the objects, labels and EXP/S/TTL values that were encoded, in order.  For
malformed structures parsing stops without reading outside the message and iteration always
terminates; the quoted datagram and the extension never overlap and both lie within the received
message."

* model of the code: `TV.Ext` (`Model/Ext.lean`); the encoder it is checked against:
  `TV.Rfc4884` (`Spec/Rfc4884.lean`, written from the RFCs).
* the headline theorems are stated for `TV.Ext.codeIsFixed` (= `true`), the scaling the driver
  entry `TV.Ext.handle` uses: the repaired code `usize::from(get_length()) * 4` / `* 8`.
  `fixed := false` is the *pre-repair* code, where the `u8` multiplication overflowed for length
  attributes ≥ 64 (ICMPv4) / ≥ 32 (ICMPv6); the old-code lemmas `current_code_panic_iff`,
  `current_code_roundtrip`, `witness_v4_len64`, `witness_v6_len32` are about
  `splitPayloadExtensionWith false` explicitly and stay true whatever the switch says.
* nothing here is partial.  Label stacks of n ≥ 0 entries round-trip (an empty or too short stack
  is reported as a stack without members: `emptyStack_reported`, `class1_short_payload`); "other"
  objects have class ≠ 1, because class 1 with any C-Type is reported as a label stack
  (`class1_any_ctype`).  `tracerExtract` stops at the octets handed to `Ipv4Packet::new_view` /
  `Ipv6Packet::new_view`; what those do is C04/C12.
* termination: `TV.Ext.objectsFrom`, `TV.Ext.objects`, `TV.Ext.members`, `TV.Ext.mapR`,
  `TV.Ext.extensionsTryFrom` are total Lean functions (no `partial`, no fuel): that they are
  accepted *is* the termination proof of `ExtensionObjectIter` and `MplsLabelStackIter`; the
  iteration counts are bounded in `objects_count` / `members_count`.
-/
namespace TV.Props.C14
open TV.Ext TV.Rfc4884

/-- The RFC 4884 "original datagram" field is the original datagram (compliant mode: all of it,
then zero padding to ≥ 128 octets and a word boundary; legacy mode: its first 128 octets, zero
padded to exactly 128).  "Recovering the original datagram unchanged" means recovering this field:
its leading `orig.length` (resp. `min orig.length 128`) octets are the datagram. -/
theorem padOrig_recovers (fam : Bool) (mode : Mode) (orig : Buf) :
    (∃ k, padOrig fam mode orig =
      (match mode with | .compliant => orig | .legacy => orig.take 128) ++ List.replicate k 0) ∧
    (padOrig fam mode orig).length =
      (match mode with | .compliant => paddedLen fam orig.length | .legacy => 128) ∧
    128 ≤ paddedLen fam orig.length ∧ orig.length ≤ paddedLen fam orig.length ∧
    paddedLen fam orig.length % unit fam = 0 ∧ paddedLen fam orig.length < orig.length + 128 + unit fam := by
  refine ⟨?_, padOrig_length fam mode orig, paddedLen_spec fam orig.length⟩
  cases mode <;> exact ⟨_, rfl⟩

/-- the split alone does not care what the extension structure contains -/
theorem roundtrip_split (fam : Bool) (h : IcmpHdr) (mode : Mode) (orig ext : Buf)
    (hext : 4 ≤ ext.length) (hfit : lengthAttr fam mode orig ≤ 255) :
    splitPayloadExtensionWith codeIsFixed fam (buildIcmp fam h mode orig ext) =
      .ok (padOrig fam mode orig, some ext) := by
  -- with `fixed := true` the scaling `scaleLen` returns normally
  rw [codeIsFixed, splitWith_built true fam h mode orig ext hext hfit]
  rfl

/-- **C14 (a), round trip.**  For ICMPv4 and ICMPv6 (`fam`), Time Exceeded and Destination
Unreachable (`te`, `h` = the other header octets), both RFC 4884 modes (`mode`), both extension
parse modes (`enabled`), every original datagram whose padded length fits the 8-bit length
attribute, every checksum value and every list of well-formed objects (any class ≠ 1 with any
C-Type and a payload of up to 65531 octets; label stacks of 0..16382 entries with S clear on all
but the last entry), for the code as the driver runs it (`codeIsFixed`):

* `payload()` is the original-datagram field, `extension()` is the extension structure, they
  partition the ICMP body (`payload_raw()`);
* `Extensions::try_from` reports exactly the encoded objects in order — class, C-Type and bytes
  of unknown objects, label/EXP/S/TTL of every label stack entry;
* the tracer (`extract_probe_resp`) obtains the original datagram in every parse mode
  (with extensions disabled a Time Exceeded message hands the whole body, which starts with it,
  to the IP parser). -/
theorem roundtrip (fam te enabled : Bool) (h : IcmpHdr) (mode : Mode) (orig : Buf)
    (ckHi ckLo : UInt8) (objs : List Obj) (hwf : ∀ o ∈ objs, o.wf)
    (hfit : lengthAttr fam mode orig ≤ 255) :
    let ext := encodeExt ckHi ckLo objs
    let icmp := buildIcmp fam h mode orig ext
    payload codeIsFixed fam icmp = .ok (padOrig fam mode orig) ∧
    extension codeIsFixed fam icmp = .ok (some ext) ∧
    payloadRaw icmp = .ok (padOrig fam mode orig ++ ext) ∧
    extensionsTryFrom ext = .ok (objs.map Obj.expected) ∧
    tracerExtract codeIsFixed fam te enabled icmp =
      (if te && !enabled then .ok (padOrig fam mode orig ++ ext, none)
       else if enabled then .ok (padOrig fam mode orig, some (objs.map Obj.expected))
       else .ok (padOrig fam mode orig, none)) := by
  intro ext icmp
  simp only [codeIsFixed]
  have hext : 4 ≤ ext.length := by simp [ext, encodeExt, extHeader]
  have hs : splitPayloadExtensionWith true fam icmp = .ok (padOrig fam mode orig, some ext) :=
    roundtrip_split fam h mode orig ext hext hfit
  have hx : extensionsTryFrom ext = .ok (objs.map Obj.expected) :=
    extensionsTryFrom_encode ckHi ckLo objs hwf
  have hraw : payloadRaw icmp = .ok (padOrig fam mode orig ++ ext) := by
    rw [payloadRaw_ok _ (buildIcmp_length ..), buildIcmp_drop]
  refine ⟨payload_of_split hs, extension_of_split hs, hraw, hx, ?_⟩
  unfold tracerExtract
  simp only [payload_of_split hs, extension_of_split hs, hraw, R.bind_ok, R.pure_eq]
  split
  · rfl
  · split
    · simp [hx]
    · rfl

/-- **Pre-repair code (`fixed := false`).**  With the `u8` multiplication the round trip held only
while the padded original datagram was shorter than 256 octets; beyond that the multiplication
panicked. -/
theorem current_code_roundtrip (fam : Bool) (h : IcmpHdr) (mode : Mode) (orig ext : Buf)
    (hext : 4 ≤ ext.length) (hfit : lengthAttr fam mode orig ≤ 255) :
    splitPayloadExtensionWith false fam (buildIcmp fam h mode orig ext) =
      if lengthAttr fam mode orig * unitOf fam > 255 then .panic
      else .ok (padOrig fam mode orig, some ext) := by
  rw [splitWith_built false fam h mode orig ext hext hfit, scaleLen, UInt8.toNat_ofNat',
    Nat.mod_eq_of_lt (by omega)]
  simp only [Bool.false_eq_true, if_false]
  split <;> rfl

/-- a sender following RFC 4950 to the letter (S set exactly on the last entry) is covered,
for any number of entries -/
theorem bosExact_wf (ms : List MplsMember) (hlen : ms.length ≤ 16382)
    (hok : ∀ m ∈ ms, memberOk m) (hb : bosExact ms) : (Obj.mpls ms).wf :=
  ⟨hlen, hok, hb.1⟩

/-- **n = 0.**  A label stack object without entries is reported as a label stack without
members, in place, and every object before and after it is reported as encoded. -/
theorem emptyStack_reported (ckHi ckLo : UInt8) (objs rest : List Obj)
    (h : ∀ o ∈ objs, o.wf) (h' : ∀ o ∈ rest, o.wf) :
    extensionsTryFrom (encodeExt ckHi ckLo (objs ++ Obj.mpls [] :: rest)) =
      .ok (objs.map Obj.expected ++ Extension.mpls [] :: rest.map Obj.expected) := by
  have h0 : (Obj.mpls []).wf := by simp [Obj.wf]
  rw [extensionsTryFrom_encode ckHi ckLo _
    (List.forall_mem_append.mpr ⟨h, List.forall_mem_cons.mpr ⟨h0, h'⟩⟩)]
  simp [Obj.expected]

/-- concrete bytes: header `20 00 00 00`, object `00 04 01 01` -/
theorem witness_emptyStack :
    extensionsTryFrom [0x20, 0, 0, 0, 0, 4, 1, 1] = .ok [.mpls []] :=
  emptyStack_reported 0 0 [] [] (by simp) (by simp)

/-- a class-1 object with a payload of 1..3 octets (no room for an entry) likewise -/
theorem class1_short_payload (s : Nat) (p tail : Buf) (hp : p.length < 4) :
    objectOf (encodeObject 1 s p ++ tail) = .ok (.mpls []) := by
  rw [objectOf_encodeObject 1 s p tail (by omega), if_pos rfl, if_pos hp]

/-- **C-Type is ignored for class 1 (deviation).**  Any class-1 object is reported as an MPLS
label stack, also when its C-Type is not 1 (RFC 4950 defines C-Type 1 only). -/
theorem class1_any_ctype (s : Nat) (ms : List MplsMember) (tail : Buf) (h : (Obj.mpls ms).wf) :
    objectOf (encodeObject 1 s (encodeStack ms) ++ tail) = .ok (.mpls ms) :=
  objectOf_class1 s ms tail h

/-- **C14 (b), `split`.**  For every length value and every ICMP body, `split` returns either the
whole body and no extension, or a partition `body = quoted ++ gap ++ extension`: the quoted
datagram is a prefix, the extension (at least 4 octets) a suffix, they do not overlap and lie
inside the body.  (`split` itself never panics: it is a pure function in the model because every
slice operation in the Rust function is guarded, see `Model/Ext.lean`.) -/
theorem split_inside (n : Nat) (body : Buf) :
    (split n body).1 <+: body ∧
    ∀ e, (split n body).2 = some e →
      e <:+ body ∧ 4 ≤ e.length ∧ (split n body).1.length + e.length ≤ body.length ∧
      ∃ gap, body = (split n body).1 ++ gap ++ e := by
  rcases split_cases n body with h | ⟨a, mid, e, h, hb, he⟩
  · rw [h]
    exact ⟨List.prefix_refl _, nofun⟩
  · rw [h]
    refine ⟨⟨mid ++ e, by simp [hb]⟩, ?_⟩
    intro e' h'
    cases h'
    refine ⟨⟨a ++ mid, hb.symm⟩, he, ?_, mid, hb⟩
    have := congrArg List.length hb
    rw [List.length_append, List.length_append] at this
    show a.length + e.length ≤ body.length
    omega

/-- **C14 (b), the packet accessors.**  For every received ICMP message of at least 8 octets
(which `*Packet::new_view` guarantees), `split_payload_extension` (as the driver runs it,
`codeIsFixed`) returns normally and its results lie inside the ICMP body without overlapping. -/
theorem accessors_inside (fam : Bool) (icmp : Buf) (h : 8 ≤ icmp.length) :
    ∃ p eo, splitPayloadExtensionWith codeIsFixed fam icmp = .ok (p, eo) ∧
      payload codeIsFixed fam icmp = .ok p ∧ extension codeIsFixed fam icmp = .ok eo ∧
      payloadRaw icmp = .ok (icmp.drop 8) ∧
      p <+: icmp.drop 8 ∧
      ∀ e, eo = some e → e <:+ icmp.drop 8 ∧ e <:+ icmp ∧ 4 ≤ e.length ∧
        p.length + e.length ≤ (icmp.drop 8).length := by
  simp only [codeIsFixed]
  have hs := splitWith_fixed fam icmp h
  have hin := split_inside ((lengthOctet fam icmp).toNat * unitOf fam) (icmp.drop 8)
  refine ⟨_, _, hs, payload_of_split hs, extension_of_split hs, payloadRaw_ok icmp h, hin.1, ?_⟩
  intro e he
  obtain ⟨hsuf, hlen, hsum, _⟩ := hin.2 e he
  exact ⟨hsuf, hsuf.trans (List.drop_suffix _ _), hlen, hsum⟩

/-- **C14 (b), no panic.**  On any ICMP message of at least 8 octets nothing panics, in any parse
mode (the code as the driver runs it). -/
theorem fixed_code_no_panic (fam te enabled : Bool) (icmp : Buf) (h : 8 ≤ icmp.length) :
    splitPayloadExtensionWith codeIsFixed fam icmp ≠ .panic ∧
    tracerExtract codeIsFixed fam te enabled icmp ≠ .panic := by
  simp only [codeIsFixed]
  rw [splitWith_fixed fam icmp h]
  exact ⟨nofun, tracerExtract_ne_panic fam te enabled icmp h⟩

/-- **Pre-repair code (`fixed := false`), exact panic condition** (dev profile, overflow checks
on): `split_payload_extension`, hence `payload()` and `extension()`, panicked precisely when the
length attribute was ≥ 64 (ICMPv4) / ≥ 32 (ICMPv6), whatever the rest of the message. -/
theorem current_code_panic_iff (fam : Bool) (icmp : Buf) (h : 8 ≤ icmp.length) :
    splitPayloadExtensionWith false fam icmp = .panic ↔
      (lengthOctet fam icmp).toNat ≥ (if fam then 32 else 64) := by
  have hu : (lengthOctet fam icmp).toNat * unitOf fam > 255 ↔
      (lengthOctet fam icmp).toNat ≥ (if fam then 32 else 64) := by
    cases fam
    · simp only [unitOf, Bool.false_eq_true, if_false]
      omega
    · simp only [unitOf, if_true]
      omega
  rw [splitWith_eq false fam icmp h, scaleLen, if_neg Bool.false_ne_true, ← hu]
  split
  · next hc => exact iff_of_true rfl hc
  · next hc => exact iff_of_false nofun hc

/-- pre-repair code: ICMPv4 Time Exceeded, length attribute 64 (a 256-octet original datagram
field); the repaired code returns the (empty) body -/
theorem witness_v4_len64 :
    splitPayloadExtensionWith false false [11, 0, 0, 0, 0, 64, 0, 0] = .panic ∧
    splitPayloadExtensionWith true false [11, 0, 0, 0, 0, 64, 0, 0] = .ok ([], none) := by
  constructor
  · rw [current_code_panic_iff false _ (by simp)]; simp [lengthOctet, lengthOffset]
  · rw [splitWith_fixed false _ (by simp)]; simp [split]

/-- pre-repair code: ICMPv6 Time Exceeded, length attribute 32 -/
theorem witness_v6_len32 :
    splitPayloadExtensionWith false true [3, 0, 0, 0, 32, 0, 0, 0] = .panic ∧
    splitPayloadExtensionWith true true [3, 0, 0, 0, 32, 0, 0, 0] = .ok ([], none) := by
  constructor
  · rw [current_code_panic_iff true _ (by simp)]; simp [lengthOctet, lengthOffset]
  · rw [splitWith_fixed true _ (by simp)]; simp [split]

/-- **C14 (b), objects.**  For every extension buffer, every object view the iterator yields is a
suffix of the buffer of at least 4 octets whose declared length is between 4 and the octets
available, so that `payload()` is exactly the declared `[4..length]` (the clamp is inactive) and
lies inside the buffer. -/
theorem objects_inside (ext o : Buf) (h : o ∈ objects ext) :
    o <:+ ext ∧ 4 ≤ o.length ∧ 4 ≤ be16At o ∧ be16At o ≤ o.length ∧
    objPayload o = .ok ((o.take (be16At o)).drop 4) ∧ (o.take (be16At o)).drop 4 <:+: ext := by
  obtain ⟨hsuf, hlen, hlo, hhi⟩ := objects_mem ext o h
  refine ⟨hsuf, hlen, hlo, hhi, ?_, ?_⟩
  · have : max 4 (min (be16At o) o.length) = be16At o := by omega
    rw [objPayload_ok o hlen, this]
  · exact ((List.drop_suffix _ _).isInfix.trans (List.take_prefix _ _).isInfix).trans hsuf.isInfix

/-- **`ExtensionObjectPacket::payload()` is total** on every view of at least 4 octets (which
`new_view` guarantees), whatever the declared length: the slice end is clamped to `[4, len]`, the
result is inside the view.  (Before the repair `[0,3,0,0]` and `[0,8,0,0]` panicked.) -/
theorem objPayload_total (o : Buf) (h : 4 ≤ o.length) :
    objPayload o = .ok ((o.take (max 4 (min (be16At o) o.length))).drop 4) ∧
    (o.take (max 4 (min (be16At o) o.length))).drop 4 <:+: o ∧
    objPayload [0, 3, 0, 0] = .ok [] ∧ objPayload [0, 8, 0, 0] = .ok [] := by
  refine ⟨objPayload_ok o h,
    (List.drop_suffix _ _).isInfix.trans (List.take_prefix _ _).isInfix, ?_, ?_⟩
  · rw [objPayload_cons4]; simp
  · rw [objPayload_cons4]; simp

/-- the object iterator yields at most `(len - 4) / 4` items -/
theorem objects_count (ext : Buf) : 4 * (objects ext).length ≤ ext.length - 4 :=
  Ext.objects_count ext

/-- **C14 (b), label stack entries.**  Every member view is a suffix of the stack of at least 4
octets (all four getters read in range), and there are at most `len / 4` of them. -/
theorem members_inside (stack m : Buf) (h : m ∈ members stack) :
    m <:+ stack ∧ 4 ≤ m.length ∧ ∃ x, memberOf m = .ok x := by
  have hm := members_mem stack m h
  exact ⟨hm.1, hm.2, memberOf_ok m hm.2⟩

theorem members_count (stack : Buf) : 4 * (members stack).length ≤ stack.length :=
  Ext.members_count stack

/-- **C14 (b), `Extensions::try_from` is total and fails only on a missing header.**  On any
octets it never panics; it returns `Err(InsufficientPacketBuffer)` exactly when there are fewer
than 4 octets; otherwise it returns `Ok` with at most `(len - 4) / 4` extensions, and nothing for a
version ≠ 2. -/
theorem tryFrom_total (ext : Buf) :
    extensionsTryFrom ext ≠ .panic ∧
    (ext.length < 4 → extensionsTryFrom ext = .err .pktShort) ∧
    (4 ≤ ext.length → ∃ xs, extensionsTryFrom ext = .ok xs ∧ 4 * xs.length ≤ ext.length - 4) ∧
    ((∃ e, extensionsTryFrom ext = .err e) ↔ ext.length < 4) ∧
    (4 ≤ ext.length → (ext.getD 0 0).toNat / 16 ≠ 2 → extensionsTryFrom ext = .ok []) := by
  refine ⟨extensionsTryFrom_ne_panic ext, extensionsTryFrom_short ext, extensionsTryFrom_ok ext,
    ?_, fun h hv => by rw [extensionsTryFrom_eq ext h, if_pos hv]⟩
  constructor
  · rintro ⟨e, he⟩
    by_cases h : ext.length < 4
    · exact h
    · obtain ⟨xs, hxs, _⟩ := extensionsTryFrom_ok ext (by omega)
      rw [hxs] at he
      cases he
  · exact fun h => ⟨_, extensionsTryFrom_short ext h⟩

end TV.Props.C14

namespace TV.Ext
open TV.Rfc4884

/-- a two-entry stack (the example of `net/extension.rs`' unit test) and an unknown object -/
def sampleObjs : List Obj :=
  [.mpls [⟨27121, 4, 0, 1⟩, ⟨2, 4, 1, 255⟩], .other 0x99 1 [6, 0x9f, 0x18, 1]]

theorem sampleObjs_wf : ∀ o ∈ sampleObjs, o.wf := by
  simp [sampleObjs, Obj.wf, memberOk]

end TV.Ext

namespace TV.Props.C14
open TV.Ext TV.Rfc4884

-- the hypotheses of `roundtrip` are satisfiable, for v4/v6 and compliant/legacy
example : lengthAttr false .compliant (List.replicate 28 7) ≤ 255 := by
  simp only [lengthAttr, paddedLen, unit, List.length_replicate]; decide
example : lengthAttr true .compliant (List.replicate 2040 7) ≤ 255 := by
  simp only [lengthAttr, paddedLen, unit, List.length_replicate]; decide
example : lengthAttr true .legacy (List.replicate 5000 7) ≤ 255 := by
  simp only [lengthAttr]; decide

example :
    extensionsTryFrom (encodeExt 0x96 0x53 sampleObjs) =
      .ok [.mpls [⟨27121, 4, 0, 1⟩, ⟨2, 4, 1, 255⟩], .unknown 0x99 1 [6, 0x9f, 0x18, 1]] :=
  (roundtrip false true true default .legacy [] 0x96 0x53 sampleObjs sampleObjs_wf
    (by simp [lengthAttr])).2.2.2.1

example (h : IcmpHdr) :
    payload codeIsFixed false (buildIcmp false h .compliant (List.replicate 28 7)
      (encodeExt 0 0 sampleObjs)) = .ok (List.replicate 28 7 ++ List.replicate 100 0) :=
  (roundtrip false true true h .compliant (List.replicate 28 7) 0 0 sampleObjs sampleObjs_wf
    (by simp [lengthAttr, paddedLen, unit])).1

-- a 253-octet original datagram (length attribute 64): panicked before the repair
example (h : IcmpHdr) :
    splitPayloadExtensionWith false false (buildIcmp false h .compliant (List.replicate 253 7)
      (encodeExt 0 0 [])) = .panic := by
  rw [current_code_roundtrip false h .compliant _ _ (by simp [encodeExt, extHeader])
    (by simp only [lengthAttr, paddedLen, unit, List.length_replicate]; decide)]
  simp only [lengthAttr, paddedLen, unit, unitOf, List.length_replicate]
  decide

-- ... and round-trips with the repaired code
example (h : IcmpHdr) :
    splitPayloadExtensionWith codeIsFixed false (buildIcmp false h .compliant (List.replicate 253 7)
      (encodeExt 0 0 [])) =
      .ok (padOrig false .compliant (List.replicate 253 7), some (encodeExt 0 0 [])) :=
  roundtrip_split false h .compliant _ _ (by simp [encodeExt, extHeader])
    (by simp only [lengthAttr, paddedLen, unit, List.length_replicate]; decide)

-- label stacks without entries are covered by `roundtrip`
example : (Obj.mpls []).wf := by simp [Obj.wf]

-- `split` does return extensions (the second disjunct of `split_cases` is inhabited)
example (a : Buf) (ha : a.length = 128) : split 0 (a ++ [0x20, 0, 0, 0]) = (a, some [0x20, 0, 0, 0]) :=
  split_append 0 a _ (by simp) (by omega) (Or.inr ⟨rfl, ha⟩)

end TV.Props.C14

#print axioms TV.Props.C14.padOrig_recovers
#print axioms TV.Props.C14.roundtrip
#print axioms TV.Props.C14.roundtrip_split
#print axioms TV.Props.C14.current_code_roundtrip
#print axioms TV.Props.C14.bosExact_wf
#print axioms TV.Props.C14.emptyStack_reported
#print axioms TV.Props.C14.witness_emptyStack
#print axioms TV.Props.C14.class1_short_payload
#print axioms TV.Props.C14.class1_any_ctype
#print axioms TV.Props.C14.split_inside
#print axioms TV.Props.C14.accessors_inside
#print axioms TV.Props.C14.current_code_panic_iff
#print axioms TV.Props.C14.witness_v4_len64
#print axioms TV.Props.C14.witness_v6_len32
#print axioms TV.Props.C14.fixed_code_no_panic
#print axioms TV.Props.C14.objects_inside
#print axioms TV.Props.C14.objects_count
#print axioms TV.Props.C14.members_inside
#print axioms TV.Props.C14.members_count
#print axioms TV.Props.C14.tryFrom_total
#print axioms TV.Props.C14.objPayload_total
