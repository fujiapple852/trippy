import TrippyVerif.Lemmas.Strategy
/-!
# C08 — rounds end exactly when the timing policy says

Time is the virtual clock in nanoseconds; an iteration waits `dt` inside `recv_probe`; the
round-completion check then reads the clock at `now + dt`.  For every configuration with any
min/max/grace durations (zero included), every reachable state and every environment.
-/
namespace TV.Props.C08
open TV.Strat

/-- the policy, spelled out: duration exceeds max-round-duration, or the target answered in this
round and duration exceeds min-round-duration and more than grace-duration has passed since the
last accepted response -/
def policy (c : Cfg) (roundStart now : Nat) (targetFound : Bool) (lastResp : Option Nat) : Prop :=
  now - roundStart > c.maxRound ∨
  (targetFound = true ∧ now - roundStart > c.minRound ∧ ∃ r, lastResp = some r ∧ now - r > c.grace)

theorem roundComplete_iff (c : Cfg) (s : TS) :
    roundComplete c s = true ↔ policy c s.roundStart s.now s.targetFound s.recvTime := by
  unfold roundComplete policy exceeds
  cases hr : s.recvTime with
  | none => simp
  | some r =>
    simp only [Bool.or_eq_true, Bool.and_eq_true, decide_eq_true_eq]
    constructor
    · rintro (⟨⟨a, b⟩, c1⟩ | d)
      · exact Or.inr ⟨c1, a, r, rfl, b⟩
      · exact Or.inl d
    · rintro (d | ⟨c1, a, r', hr', b⟩)
      · exact Or.inr d
      · cases hr'
        exact Or.inl ⟨⟨a, b⟩, c1⟩

/-- a round is published in an iteration **iff** the policy holds at the clock reading
after the wait; the reason says which trigger (`TargetFound` iff the target answered in this
round — when both triggers hold the code reports `TargetFound`); and the next round starts at
that very instant. -/
theorem publish_iff {c : Cfg} (hc : CfgOk c) {s s' : TS} (hs : Reach c s) {e : IterEnv} {o : IterOut}
    (h : iter c s e = .ok (s', o)) :
    ∃ s2 : TS, s2.roundStart = s.roundStart ∧ s2.now = s.now + e.dt ∧
      (o.published ≠ none ↔ policy c s.roundStart (s.now + e.dt) s2.targetFound s2.recvTime) ∧
      (∀ r, o.published = some r →
        (r.reason = .targetFound ↔ s2.targetFound = true) ∧
        (r.reason = .roundTimeLimitExceeded → (s.now + e.dt) - s.roundStart > c.maxRound) ∧
        s'.roundStart = s.now + e.dt ∧ s'.now = s.now + e.dt) ∧
      (o.published = none → s'.roundStart = s.roundStart ∧ s'.now = s.now + e.dt) := by
  obtain ⟨s1, hk⟩ := iter_ok hc (reach_inv hc hs) h
  have hstart := hk.check.roundStart
  have hnow := hk.check.now
  refine ⟨afterRecv c s1 e.dt e.recv, hstart, hnow, ?_⟩
  have hpol := roundComplete_iff c (afterRecv c s1 e.dt e.recv)
  rw [hstart, hnow] at hpol
  rcases hk.round with ⟨hrc, rfl, hp⟩ | ⟨hrc, rfl, hp⟩
  · rw [hp]
    refine ⟨⟨fun hne => absurd rfl hne, fun hpl => ?_⟩, fun r hr => (nomatch hr), fun _ => ⟨hstart, hnow⟩⟩
    rw [hpol.mpr hpl] at hrc
    cases hrc
  · rw [hp]
    refine ⟨⟨fun _ => hpol.mp hrc, fun _ => by simp⟩, ?_, fun hn => (nomatch hn)⟩
    intro r0 hr0
    cases hr0
    refine ⟨?_, ?_, (afterAdvance_roundStart c _).trans hnow, (afterAdvance_now c _).trans hnow⟩
    · simp
    · intro hl
      have hnf : (afterRecv c s1 e.dt e.recv).targetFound = false := by simpa using hl
      rcases hpol.mp hrc with d | ⟨t, _⟩
      · exact d
      · rw [hnf] at t
        cases t

/-- a round is never held open past max-round-duration by more than the wait of one
iteration: if the duration exceeds max-round-duration at the check, the round is published; so if
it was not yet exceeded at the previous check (`now − round_start ≤ max`), the round is published
at duration ≤ max + dt, where `dt` is bounded by the read timeout (an assumption about
`Socket::is_readable`, see DESIGN.md). -/
theorem never_held_open {c : Cfg} (hc : CfgOk c) {s s' : TS} (hs : Reach c s) {e : IterEnv} {o : IterOut}
    (h : iter c s e = .ok (s', o)) (hex : (s.now + e.dt) - s.roundStart > c.maxRound) :
    o.published ≠ none := by
  obtain ⟨s2, _, _, hiff, _⟩ := publish_iff hc hs h
  exact hiff.mpr (Or.inl hex)

/-- the arithmetic of `never_held_open`: not exceeded at the previous check ⇒ at most `max + dt` at this one -/
theorem publish_bound {c : Cfg} {s : TS} {dt : Nat} (hprev : s.now - s.roundStart ≤ c.maxRound) :
    (s.now + dt) - s.roundStart ≤ c.maxRound + dt := by omega

/-! non-vacuity: each of the two triggers alone; the second one fails within the grace period and before
min-round-duration -/
def cfgEx : Cfg :=
  { v6 := false, target := 7, proto := .icmp, traceId := 1, maxRounds := none, firstTtl := 1,
    maxTtl := 30, grace := 2, maxInflight := 24, initialSeq := 33434, strat := .classic,
    portDir := .none, minRound := 5, maxRound := 10 }
example : policy cfgEx 0 11 false none := by simp [policy, cfgEx]
example : policy cfgEx 0 6 true (some 3) ∧ ¬ policy cfgEx 0 6 true (some 4) ∧
    ¬ policy cfgEx 0 5 true (some 1) := by simp [policy, cfgEx]

end TV.Props.C08

#print axioms TV.Props.C08.roundComplete_iff
#print axioms TV.Props.C08.publish_iff
#print axioms TV.Props.C08.never_held_open
#print axioms TV.Props.C08.publish_bound
