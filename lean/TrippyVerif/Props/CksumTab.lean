import TrippyVerif.Gen.CksumTab
import TrippyVerif.Gen.C12Field
import TrippyVerif.Model.Checksum
/-!
# C13 — the checksum entry points, as the source has them (translator tie)

`Gen/CksumTab.lean` is regenerated on every run from `trippy-packet/src/checksum.rs` (`wrappers`) and `lib.rs`
(`protoIds`).  Two things are proved over it:

* `entry_points_as_modelled`: every public checksum function of the source is, in the hand model
  (`Model/Checksum.lean`, which C13's RFC 1071 theorems are about), the core function of the same name at the
  ignore-word and protocol number the *source* says — so a changed ignore-word or protocol in the source breaks
  this theorem even before the correspondence check runs;
* `*_word_is_checksum_field`: the 16-bit word each entry point leaves out is the position of the checksum field
  that the (likewise regenerated) accessor `get_checksum` of that header reads — two translators, one fact.
-/
namespace TV.Props.CksumTab
open TV.Cksum TV.Spec TV.Gen.CksumTab

/-- `IpProtocol::id` of a variant, from the regenerated table -/
def protoId (v : String) : Option Nat := (protoIds.find? (·.1 == v)).map (·.2)

/-- the model's function for a row (public function, core function, index of the word left out, protocol variant or
""): the core function of that name at the row's word and protocol -/
def byRow (row : String × String × Nat × String) (d s t : List UInt8) : Option (R Nat) :=
  match row.2.1 with
  | "checksum" => if row.2.2.2 == "" then some (checksum d row.2.2.1) else none
  | "ipv4_checksum" => (protoId row.2.2.2).map fun p => ipv4Checksum d row.2.2.1 s t (UInt8.ofNat p)
  | "ipv6_checksum" => (protoId row.2.2.2).map fun p => ipv6Checksum d row.2.2.1 s t (UInt8.ofNat p)
  | _ => none

/-- the model's entry point of that name -/
def modelFn (name : String) (d s t : List UInt8) : Option (R Nat) :=
  match name with
  | "ipv4_header_checksum" => some (ipv4_header_checksum d)
  | "icmp_ipv4_checksum" => some (icmp_ipv4_checksum d)
  | "icmp_ipv6_checksum" => some (icmp_ipv6_checksum d s t)
  | "udp_ipv4_checksum" => some (udp_ipv4_checksum d s t)
  | "tcp_ipv4_checksum" => some (tcp_ipv4_checksum d s t)
  | "udp_ipv6_checksum" => some (udp_ipv6_checksum d s t)
  | _ => none

/-- every public checksum function of the source is modelled, at the source's ignore-word and protocol -/
theorem entry_points_as_modelled (d s t : List UInt8) :
    ∀ row ∈ wrappers, ∃ r, modelFn row.1 d s t = some r ∧ byRow row d s t = some r := by
  intro row h
  simp only [wrappers, List.mem_cons, List.not_mem_nil, or_false] at h
  rcases h with rfl | rfl | rfl | rfl | rfl | rfl <;> exact ⟨_, rfl, rfl⟩

/-- and the model has no entry point the source lacks -/
theorem entry_points_complete :
    wrappers.map (·.1) = ["ipv4_header_checksum", "icmp_ipv4_checksum", "icmp_ipv6_checksum",
      "udp_ipv4_checksum", "tcp_ipv4_checksum", "udp_ipv6_checksum"] := rfl

/-- the 16-bit word an entry point leaves out -/
def wordOf (name : String) : Option Nat := (wrappers.find? (·.1 == name)).map (·.2.2.1)

theorem ipv4_header_word_is_checksum_field (b : Buf) (h : 20 ≤ b.length) :
    ∃ w, wordOf "ipv4_header_checksum" = some w ∧
      TV.Pkt.ipv4.Ipv4Packet.get_checksum b = .ok (UInt16.ofBitVec ((getField b (2 * w) 2 0 16).setWidth 16)) :=
  ⟨5, by decide +kernel, TV.Pkt.ipv4.Ipv4Packet.get_checksum_spec b h⟩

theorem icmp_ipv4_word_is_checksum_field (b : Buf) (h : 8 ≤ b.length) :
    ∃ w, wordOf "icmp_ipv4_checksum" = some w ∧
      TV.Pkt.icmpv4.IcmpPacket.get_checksum b = .ok (UInt16.ofBitVec ((getField b (2 * w) 2 0 16).setWidth 16)) :=
  ⟨1, by decide +kernel, TV.Pkt.icmpv4.IcmpPacket.get_checksum_spec b h⟩

theorem icmp_ipv6_word_is_checksum_field (b : Buf) (h : 8 ≤ b.length) :
    ∃ w, wordOf "icmp_ipv6_checksum" = some w ∧
      TV.Pkt.icmpv6.IcmpPacket.get_checksum b = .ok (UInt16.ofBitVec ((getField b (2 * w) 2 0 16).setWidth 16)) :=
  ⟨1, by decide +kernel, TV.Pkt.icmpv6.IcmpPacket.get_checksum_spec b h⟩

theorem udp_word_is_checksum_field (b : Buf) (h : 8 ≤ b.length) :
    ∃ w, wordOf "udp_ipv4_checksum" = some w ∧ wordOf "udp_ipv6_checksum" = some w ∧
      TV.Pkt.udp.UdpPacket.get_checksum b = .ok (UInt16.ofBitVec ((getField b (2 * w) 2 0 16).setWidth 16)) :=
  ⟨3, by decide +kernel, by decide +kernel, TV.Pkt.udp.UdpPacket.get_checksum_spec b h⟩

theorem tcp_word_is_checksum_field (b : Buf) (h : 20 ≤ b.length) :
    ∃ w, wordOf "tcp_ipv4_checksum" = some w ∧
      TV.Pkt.tcp.TcpPacket.get_checksum b = .ok (UInt16.ofBitVec ((getField b (2 * w) 2 0 16).setWidth 16)) :=
  ⟨8, by decide +kernel, TV.Pkt.tcp.TcpPacket.get_checksum_spec b h⟩

/-- the protocol numbers are the IANA ones (RFC 790 / RFC 4443): ICMP 1, TCP 6, UDP 17, ICMPv6 58 -/
theorem protocol_numbers :
    protoId "Icmp" = some 1 ∧ protoId "Tcp" = some 6 ∧ protoId "Udp" = some 17 ∧ protoId "IcmpV6" = some 58 := by
  decide +kernel

#print axioms entry_points_as_modelled
#print axioms entry_points_complete
#print axioms ipv4_header_word_is_checksum_field
#print axioms icmp_ipv4_word_is_checksum_field
#print axioms icmp_ipv6_word_is_checksum_field
#print axioms udp_word_is_checksum_field
#print axioms tcp_word_is_checksum_field
#print axioms protocol_numbers
end TV.Props.CksumTab
