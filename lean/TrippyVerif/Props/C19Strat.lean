import TrippyVerif.Lemmas.Compose
/-!
# C19, "every other configuration reports not-applicable": the strategy half

The aggregator derives a hop's NAT status from the two UDP checksums a completed probe carries
(`C19.status_of_response`), and leaves it alone when they are absent
(`C19.status_unchanged_without_checksums`; a fresh hop is `NotApplicable`: `C19.fresh_hop_not_applicable`).
This file proves where checksums can come from at all: **only an IPv4 Dublin trace ever hands them
to the aggregator.**  For every other configuration (`strat ≠ Dublin` or IPv6), in every reachable
state and whatever the network sends, no entry of any published round carries a checksum pair — so
every hop of such a trace stays `NotApplicable` for ever.

The proof goes through the history of the round (`reach_hist`): a published `Complete` entry is
`mkComplete p sr` for a response `sr = strategyResp c r` that was really accepted, and `strategyResp`
fills the checksum fields for Dublin over IPv4 only.
-/
namespace TV.Props.C19Strat
open TV.Strat

/-- `StrategyResponse::from` forwards checksums for Dublin over IPv4 only -/
theorem strategyResp_no_checksums {c : Cfg} (h : c.strat ≠ .dublin ∨ c.v6 = true) (r : Resp) :
    (strategyResp c r).expCk = none ∧ (strategyResp c r).actCk = none := by
  -- `protoStrategyResp` returns a checksum pair in one arm only: UDP with Dublin over IPv4, which `h` excludes
  have hp : ∃ tid sq tos, protoStrategyResp c r.proto = (tid, sq, tos, none, none) := by
    cases r.proto with
    | icmp id sq tos => exact ⟨_, _, _, rfl⟩
    | tcp a sp dp tos => exact ⟨_, _, _, rfl⟩
    | udp id x sp dp tos exp act plen y =>
      simp only [protoStrategyResp]
      cases hs : c.strat with
      | classic => exact ⟨_, _, _, rfl⟩
      | paris => exact ⟨_, _, _, rfl⟩
      | dublin =>
        rw [h.resolve_left fun hne => hne hs]
        exact ⟨_, _, _, rfl⟩
  obtain ⟨tid, sq, tos, hq⟩ := hp
  unfold strategyResp
  rw [hq]
  cases r.kind <;> simp

/-- … and for Dublin over IPv4 it forwards exactly the pair the response carries -/
theorem strategyResp_checksums_dublin_v4 {c : Cfg} (hs : c.strat = .dublin) (hv : c.v6 = false) (r : Resp)
    (id x sp dp : Nat) (tos : Option Nat) (exp act plen : Nat) (y : Bool)
    (hp : r.proto = .udp id x sp dp tos exp act plen y) :
    (strategyResp c r).expCk = some exp ∧ (strategyResp c r).actCk = some act := by
  unfold strategyResp
  simp only [hp, protoStrategyResp, hs, hv]
  cases r.kind <;> simp

/-- **C19 (strategy half).**  Outside IPv4/Dublin no entry of a published round carries checksums:
    `ckPair slot = none` for every entry — the hypothesis under which
    `C19.status_unchanged_without_checksums` keeps every hop `NotApplicable`. -/
theorem published_round_without_checksums {c : Cfg} (hc : CfgOk c) (hna : c.strat ≠ .dublin ∨ c.v6 = true)
    {s s' : TS} (hs : Reach c s) {e : IterEnv} {o : IterOut} (h : iter c s e = .ok (s', o))
    (r : Round) (hr : o.published = some r) :
    ∀ sl ∈ r.probes, Reagg.ckPair sl = none := by
  obtain ⟨g, hw⟩ := reach_hist hc hs
  obtain ⟨s1, hk⟩ := iter_ok hc (reach_inv hc hs) h
  have hw2 := hw.atCheck hk
  obtain rfl := hk.published hr
  intro sl hsl
  rw [roundOf_probes hw2.ginv] at hsl
  obtain ⟨x, _, hx⟩ := List.mem_map.mp hsl
  cases sl with
  | complete cp =>
    obtain ⟨_, a, ha, _, hcp⟩ := expectedSlot_complete hx
    obtain ⟨rr, hrr⟩ := hw2.fromNet a ha
    obtain ⟨he, hac⟩ := strategyResp_no_checksums hna rr
    subst hcp
    simp [Reagg.ckPair, mkComplete, hrr, he, hac]
  | notSent => rfl
  | skipped => rfl
  | failed p => rfl
  | awaited p => rfl

end TV.Props.C19Strat

#print axioms TV.Props.C19Strat.strategyResp_no_checksums
#print axioms TV.Props.C19Strat.strategyResp_checksums_dublin_v4
#print axioms TV.Props.C19Strat.published_round_without_checksums
