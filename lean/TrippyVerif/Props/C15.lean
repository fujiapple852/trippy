import TrippyVerif.Lemmas.AggRun
/-
C15 — "Flow identifiers are stable, consistent and bounded"

Each round is attributed to a flow whose recorded hop addresses agree, position by position, with
every address seen in that round; a flow identifier, once issued, always denotes a path that extends
(never contradicts or forgets) what was recorded under it before, and identifiers are issued densely
from 1.  The number of flows never exceeds the configured maximum – once it is reached no new flow
is created while rounds matching an existing flow are still attributed to it – the default flow
aggregates every round, and each flow's round count and hop statistics are those of exactly the
rounds attributed to it.

Model : `TV.Agg.State.{new, updateFromRound, run}`, `TV.Agg.Registry.*`, `TV.Agg.Flow.*`
        (Model/StateAgg.lean, line by line from trippy-core/src/state.rs and flows.rs)
Spec  : `Flow.le` (`old ⊑ new`), `Flow.agree` (Lemmas/AggFlow.lean), `attributions`, `roundsFor` (Lemmas/AggRun.lean),
        `RoundWF` (Spec/Reagg.lean)

All statements hold for every number type `F` (the float fields play no role).  A history is any
list of `RoundWF` rounds, of any length; `maxFlows` is arbitrary (0 included).
-/
namespace TV.Props.C15
open TV.Strat TV.Agg TV.Reagg

variable {F : Type} [Num F]

/-- the flow recorded for a round lists, position by position, what each probe of the round saw: the
responder of a completed probe, `unknown` for an awaited or failed one (skipped/unsent slots are no
probes and carry no position), cut at the round's path length -/
theorem roundFlow_records (r : Round) :
    roundFlow r = ((r.probes.filterMap flowHop).take r.largestTtl).map
      (fun | some a => FlowEntry.known a | none => FlowEntry.unknown) := rfl

def hostOf : Slot → Option Nat
  | .complete c => some c.host
  | _ => none

/-- **Positions are probed hops.**  The flow of a round has exactly one entry per hop the round
probed, in probe order (strictly ascending TTLs for a well-formed round): the responder of a
completed probe, `unknown` for a probe that is still awaited *or could not be sent*.  Skipped and
unused slots are not probes and take no position.  (Before fix `eebeff3` a probe that failed to send
was left out and every later hop moved up one position: `flow_positions_before_fix`.) -/
theorem flow_positions_are_probed_hops (r : Round) :
    r.probes.filterMap flowHop = r.probes.filterMap (fun s => (slotTtl s).map fun _ => hostOf s) ∧
    (r.probes.filterMap flowHop).length = (ttls r.probes).length := by
  have h1 : r.probes.filterMap flowHop = r.probes.filterMap (fun s => (slotTtl s).map fun _ => hostOf s) :=
    congrArg (List.filterMap · r.probes) (funext fun s => by cases s <;> rfl)
  refine ⟨h1, ?_⟩
  rw [h1]
  unfold ttls
  induction r.probes with
  | nil => rfl
  | cons s ps ih =>
    simp only [List.filterMap_cons]
    cases slotTtl s <;> simp [ih]

/-- the code before the fix: a failed probe had no position -/
def flowHopOld : Slot → Option (Option Nat)
  | .awaited _ => some none
  | .complete c => some (some c.host)
  | _ => none

/-- witness: on the path `[a, b, c]`, a round in which the ttl 2 probe failed to send was recorded as
`[a, c]` — `c` in the position of hop 2 — by the old code, and is `[a, ?, c]` now -/
theorem flow_positions_before_fix (p1 p2 p3 : Probe) (c1 c3 : Complete)
    (h1 : c1.host = 1) (h3 : c3.host = 3) :
    [Slot.complete c1, .failed p2, .complete c3].filterMap flowHopOld = [some 1, some 3] ∧
    [Slot.complete c1, .failed p2, .complete c3].filterMap flowHop = [some 1, none, some 3] := by
  constructor
  · simp only [List.filterMap_cons, List.filterMap_nil, flowHopOld, h1, h3]
  · simp only [List.filterMap_cons, List.filterMap_nil, flowHop, h1, h3]

/-- After any history the run has not panicked, identifiers are `1, 2, …, n` in registration
order, the next identifier is `n + 1`, and `n ≤ maxFlows`. -/
theorem ids_dense_and_bounded (cfg : Agg.Cfg) (hist : List Round) (hwf : ∀ r ∈ hist, RoundWF r) :
    ∃ st, State.run (State.new (F := F) cfg) hist = .ok st ∧
      st.registry.flows.map (·.2) = List.range' 1 st.registry.flows.length ∧
      st.registry.nextId = st.registry.flows.length + 1 ∧
      st.registry.flows.length ≤ cfg.maxFlows := by
  obtain ⟨st, h1, h, _⟩ := State.run_spec_new (F := F) cfg hist hwf
  have hb := h.inv.bound
  rw [h.cfg] at hb
  exact ⟨st, h1, h.inv.reg.1, h.inv.reg.2, hb⟩

/-- Stability: whatever was recorded under an identifier after a history `h₁` is still recorded
under the same identifier after any continuation `h₂`, and has only grown (`⊑`: every known address
stays the same known address, the length does not decrease); no flow disappears. -/
theorem stored_flows_only_grow (cfg : Agg.Cfg) (h₁ h₂ : List Round)
    (hwf₁ : ∀ r ∈ h₁, RoundWF r) (hwf₂ : ∀ r ∈ h₂, RoundWF r) :
    ∃ st₁ st₂, State.run (State.new (F := F) cfg) h₁ = .ok st₁ ∧
      State.run (State.new (F := F) cfg) (h₁ ++ h₂) = .ok st₂ ∧
      (∀ e id, (e, id) ∈ st₁.registry.flows → ∃ e', (e', id) ∈ st₂.registry.flows ∧ Flow.le e e') ∧
      st₁.registry.flows.length ≤ st₂.registry.flows.length := by
  obtain ⟨st₁, a1, a, _⟩ := State.run_spec_new (F := F) cfg h₁ hwf₁
  obtain ⟨st₂, b1, b⟩ := State.run_spec (F := F) h₂ hwf₂ st₁ a.inv
  have c := regRun_spec st₁.cfg.maxFlows h₂ st₁.registry a.inv.reg a.inv.bound
  refine ⟨st₁, st₂, a1, ?_, ?_, ?_⟩
  · rw [State.run_append, a1]
    exact b1
  · rw [b.registry]
    exact c.le
  · rw [b.registry]
    exact c.length_le

/-- `⊑` means what it should: nothing known is contradicted -/
theorem le_agrees {old new : Flow} (h : Flow.le old new) : Flow.agree new old := Flow.agree_of_le h

/-- every state reached from `State.new` satisfies the invariant the single-step statements assume -/
theorem reachable_inv (cfg : Agg.Cfg) (hist : List Round) (hwf : ∀ r ∈ hist, RoundWF r) :
    ∃ st, State.run (State.new (F := F) cfg) hist = .ok st ∧ StateInv st ∧ st.cfg = cfg := by
  obtain ⟨st, h1, h, _⟩ := State.run_spec_new (F := F) cfg hist hwf
  exact ⟨st, h1, h.inv, h.cfg⟩

/-- Consistency: when a round is attributed to identifier `id` (it becomes the round's flow id),
the flow stored under `id` afterwards contains the round's flow: at every position where the round
saw an address the stored flow has that very address. -/
theorem attributed_flow_contains_round (st : State F) (hinv : StateInv st) (r : Round) (hwf : RoundWF r)
    (id : Nat) (hid : (regStep st.cfg.maxFlows st.registry (roundFlow r)).2 = some id) :
    ∃ st', st.updateFromRound r = .ok st' ∧ st'.roundFlowId = id ∧ 1 ≤ id ∧
      ∃ e', (e', id) ∈ st'.registry.flows ∧ Flow.le (roundFlow r) e' ∧ Flow.agree e' (roundFlow r) := by
  obtain ⟨st', h1, h⟩ := updateFromRound_spec st r hinv hwf
  obtain ⟨k1, _, e', k3, k4⟩ := (regStep_spec st.cfg.maxFlows st.registry (roundFlow r) hinv.reg hinv.bound).attributed id hid
  exact ⟨st', h1, by simp [h.roundFlowId, hid], k1, e', by rw [h.registry]; exact k3, k4, Flow.agree_of_le k4⟩

/-- A round compatible with a stored flow is attributed to the *first* such flow – whether or
not the registry is full – no flow is created, and that flow's state (and the default flow's)
absorbs the round. -/
theorem matching_round_attributed (st : State F) (hinv : StateInv st) (r : Round) (hwf : RoundWF r)
    (pre post : List (Flow × Nat)) (e : Flow × Nat) (hsplit : st.registry.flows = pre ++ e :: post)
    (hpre : ∀ x ∈ pre, ¬ Flow.agree x.1 (roundFlow r)) (hag : Flow.agree e.1 (roundFlow r)) :
    ∃ st', st.updateFromRound r = .ok st' ∧ st'.roundFlowId = e.2 ∧
      st'.registry.flows.length = st.registry.flows.length ∧
      lookupFlow st'.flows e.2 = some ((flowOr st e.2).step r) ∧
      lookupFlow st'.flows 0 = some ((flowOr st 0).step r) ∧
      ∀ id, id ≠ 0 → id ≠ e.2 → lookupFlow st'.flows id = lookupFlow st.flows id := by
  obtain ⟨st', h1, h⟩ := updateFromRound_spec st r hinv hwf
  have hreg := regStep_first st.cfg.maxFlows st.registry (roundFlow r) pre e post hsplit hpre hag
  have k1 : (regStep st.cfg.maxFlows st.registry (roundFlow r)).2 = some e.2 := by rw [hreg]
  refine ⟨st', h1, by simp [h.roundFlowId, k1], by rw [h.registry, hreg]; simp [hsplit], by simp [h.flow, k1],
    by simp [h.flow], ?_⟩
  intro id h0 hne
  rw [h.flow, k1, if_neg (by simp [h0, Ne.symm hne])]

/-- With a full registry and no compatible stored flow no flow is created: the registry and
the round flow id are unchanged and only the default flow is updated. -/
theorem full_registry_no_match (st : State F) (hinv : StateInv st) (r : Round) (hwf : RoundWF r)
    (hfull : ¬ st.registry.flows.length < st.cfg.maxFlows)
    (hno : ∀ x ∈ st.registry.flows, ¬ Flow.agree x.1 (roundFlow r)) :
    ∃ st', st.updateFromRound r = .ok st' ∧ st'.registry = st.registry ∧
      st'.roundFlowId = st.roundFlowId ∧
      lookupFlow st'.flows 0 = some ((flowOr st 0).step r) ∧
      ∀ id, id ≠ 0 → lookupFlow st'.flows id = lookupFlow st.flows id := by
  obtain ⟨st', h1, h⟩ := updateFromRound_spec st r hinv hwf
  have := regStep_none st.cfg.maxFlows st.registry (roundFlow r) hno
  rw [if_neg hfull] at this
  refine ⟨st', h1, by rw [h.registry, this], by rw [h.roundFlowId, this]; rfl, by simp [h.flow], ?_⟩
  intro id h0
  rw [h.flow, this]
  simp [h0]

/-- While there is room, a round compatible with no stored flow creates the next identifier
and is stored under it. -/
theorem new_flow_when_room (st : State F) (hinv : StateInv st) (r : Round) (hwf : RoundWF r)
    (hroom : st.registry.flows.length < st.cfg.maxFlows)
    (hno : ∀ x ∈ st.registry.flows, ¬ Flow.agree x.1 (roundFlow r)) :
    ∃ st', st.updateFromRound r = .ok st' ∧ st'.roundFlowId = st.registry.flows.length + 1 ∧
      st'.registry.flows = st.registry.flows ++ [(roundFlow r, st.registry.flows.length + 1)] := by
  obtain ⟨st', h1, h⟩ := updateFromRound_spec st r hinv hwf
  have := regStep_none st.cfg.maxFlows st.registry (roundFlow r) hno
  rw [if_pos hroom, hinv.reg.2] at this
  exact ⟨st', h1, by simp [h.roundFlowId, this], by rw [h.registry, this]⟩

/-- After any history: the default flow's state is the aggregation of *every* round; the state of
any other flow is the aggregation of exactly the rounds attributed to it (absent if there are
none); its round count is the number of those rounds; all attributed identifiers are ≥ 1 and denote
registered flows; the round flow id is the latest attribution.  (`FlowState.run` is the model of
`FlowState::update_from_round` iterated – C05/C10 describe its result.) -/
theorem flow_states_are_folds (cfg : Agg.Cfg) (hist : List Round) (hwf : ∀ r ∈ hist, RoundWF r) :
    ∃ st, State.run (State.new (F := F) cfg) hist = .ok st ∧
      (∃ fs₀, FlowState.run (FlowState.new cfg.maxSamples) hist = .ok fs₀ ∧
        lookupFlow st.flows 0 = some fs₀ ∧ fs₀.roundCount = hist.length) ∧
      (∀ id, id ≠ 0 →
        let rs := roundsFor id hist (attributions cfg.maxFlows Registry.new hist)
        (rs = [] → lookupFlow st.flows id = none) ∧
        (rs ≠ [] → ∃ fs, FlowState.run (FlowState.new cfg.maxSamples) rs = .ok fs ∧
          lookupFlow st.flows id = some fs ∧ fs.roundCount = rs.length)) ∧
      (∀ a ∈ attributions cfg.maxFlows Registry.new hist, ∀ id, a = some id →
        1 ≤ id ∧ id ≤ st.registry.flows.length) ∧
      st.roundFlowId = (((attributions cfg.maxFlows Registry.new hist).filterMap id).getLast?).getD 0 := by
  obtain ⟨st, h1, h, h0, hflow⟩ := State.run_spec_new (F := F) cfg hist hwf
  refine ⟨st, h1, ⟨_, run_steps hist hwf _ (FlowState.new_len _), h0, (reached_foldl _ hist hwf).roundCount⟩, ?_, ?_,
    h.roundFlowId⟩
  · intro id hid rs
    have hwf' : ∀ r ∈ rs, RoundWF r := fun r hr => hwf r ((roundsFor_sublist id hist _).subset hr)
    exact ⟨fun he => (hflow id hid).trans (if_pos he), fun he => ⟨_, run_steps rs hwf' _ (FlowState.new_len _),
      (hflow id hid).trans (if_neg he), (reached_foldl _ rs hwf').roundCount⟩⟩
  · rw [h.registry]
    exact (regRun_spec cfg.maxFlows hist Registry.new RegInv_new (by simp [Registry.new])).attributed

def pr (ttl round : Nat) : Probe :=
  { seq := 33000 + ttl, ident := 1, srcPort := 5000, destPort := 33434, ttl := ttl, round := round,
    sent := 1000 * round, flags := 0 }
def cp (ttl round host : Nat) : Slot :=
  .complete { probe := pr ttl round, host := host, received := 1000 * round + 700 + ttl,
              kind := .timeExceeded 0, tos := none, expCk := none, actCk := none, ext := none }
/-- three ECMP rounds over two paths, the second hop silent in the last one -/
def exHist : List Round :=
  [ { probes := [cp 1 0 10, cp 2 0 20, cp 3 0 7], largestTtl := 3, reason := .targetFound },
    { probes := [cp 1 1 10, cp 2 1 21, cp 3 1 7], largestTtl := 3, reason := .targetFound },
    { probes := [cp 1 2 10, .awaited (pr 2 2), cp 3 2 7], largestTtl := 3, reason := .targetFound } ]

example : ∀ r ∈ exHist, RoundWF r := by decide
-- the attributions: flows 1, 2, and the third round matches (and is merged into) flow 1
example : attributions 8 Registry.new exHist = [some 1, some 2, some 1] := by decide
-- with room for one flow only, the second round is not attributed, the third still is
example : attributions 1 Registry.new exHist = [some 1, none, some 1] := by decide
example : roundsFor 1 exHist (attributions 1 Registry.new exHist) = [exHist[0], exHist[2]] := by decide
example : (regRun 8 Registry.new exHist).flows =
    [([.known 10, .known 20, .known 7], 1), ([.known 10, .known 21, .known 7], 2)] := by decide

end TV.Props.C15

#print axioms TV.Props.C15.roundFlow_records
#print axioms TV.Props.C15.flow_positions_are_probed_hops
#print axioms TV.Props.C15.flow_positions_before_fix
#print axioms TV.Props.C15.ids_dense_and_bounded
#print axioms TV.Props.C15.stored_flows_only_grow
#print axioms TV.Props.C15.le_agrees
#print axioms TV.Props.C15.attributed_flow_contains_round
#print axioms TV.Props.C15.reachable_inv
#print axioms TV.Props.C15.matching_round_attributed
#print axioms TV.Props.C15.full_registry_no_match
#print axioms TV.Props.C15.new_flow_when_room
#print axioms TV.Props.C15.flow_states_are_folds
