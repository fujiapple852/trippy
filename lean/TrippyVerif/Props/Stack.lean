import TrippyVerif.Lemmas.Stack
import TrippyVerif.Props.Compose
import TrippyVerif.Props.Channel
/-!
# The whole stack (`Tracer::run` = Channel + Strategy + State): refinement and end-to-end theorems

`TV.Stack.iter` (`Model/Stack.lean`) is one iteration of the loop of `Strategy::run` with the real
`Channel` as its network and the `Tracer`'s `handler` as its publisher, over a *socket-level*
environment.  It refines the abstract state machine of `Model/Strategy.lean` (`iter_refines`; a whole
run: `loop_run`), so every strategy-layer theorem (C01 C03 C06 C07 C08 C09) is a theorem about the
stack.  The layer theorems are then folded into statements that mention only socket-level facts: the
`State` is the aggregation of the published rounds (C05 / C10 apply to it); a datagram or handshake
that the C02 theorems accept completes exactly the probe it answers, in the tracer state and in the
published round (C01 ∘ C02 ∘ Channel); nothing panics (C04 ∘ C09 ∘ C16); what answers no probe of
the round in progress is noise (C03).
-/
namespace TV.Props.Stack
open TV TV.Strat TV.Stack

/-- what `recv_probe` returns to the strategy when called on `ch` after the wait of `e` -/
def absRecv (ch : Chan.Chan) (e : Env) : R RecvOutcome :=
  recvOutcome (ch.now + e.dt) (Chan.recv (Chan.advance ch e.dt) e.recv).out

structure Stages {F : Type} [Agg.Num F] (c : Cfg) (st st' : St F) (e : Env) (o : Out) (ch : Chan.Chan)
    (ts1 : TS) (ro : RecvOutcome) (ts2 : TS) : Prop where
  send : sendRequestS c st.chan st.ts e.injs = .ok (ch, ts1, o.sent, o.calls)
  out : (Chan.recv (Chan.advance ch e.dt) e.recv).out = .ok o.recv
  recv : absRecv ch e = .ok ro
  resp : recvResponse c ts1 e.dt ro = .ok ts2
  round : updateRound c ts2 = .ok (st'.ts, o.published)
  agg_none : o.published = none → st'.agg = st.agg
  agg_some : ∀ r, o.published = some r → st.agg.updateFromRound r = .ok st'.agg
  chan : st'.chan = (Chan.recv (Chan.advance ch e.dt) e.recv).chan
  error : st'.error = st.error

theorem iter_stages {F : Type} [Agg.Num F] {c : Cfg} {st st' : St F} {e : Env} {o : Out}
    (h : Stack.iter c st e = .ok (st', o)) : ∃ ch ts1 ro ts2, Stages c st st' e o ch ts1 ro ts2 := by
  obtain ⟨⟨ch, ts1, sent, calls⟩, hs, h⟩ := R.bind_eq_ok.mp h
  obtain ⟨ro, hro, h⟩ := R.bind_eq_ok.mp h
  obtain ⟨w, hw⟩ := recvOutcome_ok hro
  obtain ⟨ts2, hrv, h⟩ := R.bind_eq_ok.mp h
  obtain ⟨⟨ts3, pub⟩, hu, h⟩ := R.bind_eq_ok.mp h
  cases pub with
  | none =>
    cases h
    exact ⟨ch, ts1, ro, ts2, hs, by rw [hw], hro, hrv, hu, fun _ => rfl, fun _ hr => (nomatch hr), rfl, rfl⟩
  | some rd =>
    obtain ⟨agg', ha, h⟩ := R.bind_eq_ok.mp h
    cases h
    exact ⟨ch, ts1, ro, ts2, hs, by rw [hw], hro, hrv, hu, fun hr => (nomatch hr),
      fun _ hr => Option.some.inj hr ▸ ha, rfl, rfl⟩

theorem Stages.iter {F : Type} [Agg.Num F] {c : Cfg} {st st' : St F} {e : Env} {o : Out} {ch : Chan.Chan}
    {ts1 ts2 : TS} {ro : RecvOutcome} (hk : Stages c st st' e o ch ts1 ro ts2) :
    Strat.iter c st.ts { sends := o.sent.map (·.2), dt := e.dt, recv := ro } =
      .ok (st'.ts, { sent := o.sent, published := o.published }) := by
  simp [Strat.iter, (sendRequestS_ok hk.send).1, hk.resp, hk.round]

/-- **Refinement.**  A successful stack iteration is an iteration of the abstract state machine
for the outcomes the channel produced; the `State` is updated with the published round, if any,
and only then. -/
theorem iter_refines {F : Type} [Agg.Num F] {c : Cfg} {st st' : St F} {e : Env} {o : Out}
    (h : Stack.iter c st e = .ok (st', o)) :
    ∃ ro, Strat.iter c st.ts { sends := o.sent.map (·.2), dt := e.dt, recv := ro } =
        .ok (st'.ts, { sent := o.sent, published := o.published }) ∧
      (match o.published with
       | none => st'.agg = st.agg
       | some r => st.agg.updateFromRound r = .ok st'.agg) ∧
      st'.error = st.error := by
  obtain ⟨ch, ts1, ro, ts2, hk⟩ := iter_stages h
  refine ⟨ro, hk.iter, ?_, hk.error⟩
  cases hp : o.published with
  | none => exact hk.agg_none hp
  | some r => exact hk.agg_some r hp

/-- the rounds a list of stack iterations published, oldest first -/
def published (outs : List Out) : List Round := outs.filterMap (·.published)

def absOut (o : Out) : IterOut := { sent := o.sent, published := o.published }

theorem published_eq (outs : List Out) :
    published outs = Compose.publishedRounds (outs.map absOut) := by
  simp [published, Compose.publishedRounds, List.filterMap_map, Function.comp_def, absOut]

/-- **A stack run is a run of the abstract machine** over `aenvs`, the environments the channel
produced for the iterations that succeeded.  The abstract run ends `Ok(())` exactly when the stack
run does, and is cut short (`none`) where the stack run failed or ran out of environments. -/
structure LoopRun {F : Type} [Agg.Num F] (c : Cfg) (st : St F) (envs : List Env) (aenvs : List IterEnv) :
    Prop where
  dt : ∀ a ∈ aenvs, ∃ e ∈ envs, a.dt = e.dt
  state : (Strat.run c st.ts aenvs).state = (Stack.loop c st envs).1.ts
  outs : (Strat.run c st.ts aenvs).outs = (Stack.loop c st envs).2.1.map absOut
  ok : (Stack.loop c st envs).2.2 = some (.ok ()) ↔ (Strat.run c st.ts aenvs).ended = some (.ok ())
  none : (Stack.loop c st envs).2.2 = none →
    aenvs.length = envs.length ∧ (Strat.run c st.ts aenvs).ended = none

theorem loop_run {F : Type} [Agg.Num F] {c : Cfg} (envs : List Env) (st : St F) :
    ∃ aenvs, LoopRun c st envs aenvs := by
  -- cases of `Stack.loop`: 1 no environment left, 2 finished, 3 iteration ok, 4 error value, 5 panic
  fun_induction Stack.loop c st envs with
  | case1 st =>
    refine ⟨[], ?_⟩
    by_cases h : finished st.ts c.maxRounds = true <;> constructor <;> simp [Stack.loop, Strat.run, h]
  | case2 st e es hf => exact ⟨[], by constructor <;> simp [Stack.loop, Strat.run, hf]⟩
  | case3 st e es hf st' o hi s outs en hl ih =>
    obtain ⟨ro, hit, -, -⟩ := iter_refines hi
    obtain ⟨aenvs, h⟩ := ih
    have hloop : Stack.loop c st (e :: es) = (s, o :: outs, en) := by simp [Stack.loop, hf, hi, hl]
    refine ⟨{ sends := o.sent.map (·.2), dt := e.dt, recv := ro } :: aenvs, ?_⟩
    constructor
    · intro a ha
      rcases List.mem_cons.mp ha with rfl | ha
      · exact ⟨e, by simp, rfl⟩
      · obtain ⟨e', he', hd⟩ := h.dt a ha
        exact ⟨e', by simp [he'], hd⟩
    · simp [Strat.run, hf, hit, hloop, h.state, hl]
    · simp [Strat.run, hf, hit, hloop, h.outs, hl, absOut]
    · simpa [Strat.run, hf, hit, hloop, hl] using h.ok
    · simpa [Strat.run, hf, hit, hloop, hl] using h.none
  | case4 st e es hf er hi => exact ⟨[], by constructor <;> simp [Stack.loop, Strat.run, hf, hi]⟩
  | case5 st e es hf hi => exact ⟨[], by constructor <;> simp [Stack.loop, Strat.run, hf, hi]⟩

theorem loop_agg {F : Type} [Agg.Num F] {c : Cfg} (envs : List Env) (st : St F) :
    Agg.State.run st.agg (published (Stack.loop c st envs).2.1) = .ok (Stack.loop c st envs).1.agg := by
  fun_induction Stack.loop c st envs with
  | case1 st => rfl
  | case2 st e es hf => rfl
  | case3 st e es hf st' o hi s outs en hl ih =>
    obtain ⟨_, _, _, _, hk⟩ := iter_stages hi
    rw [hl] at ih
    simp only [published, List.filterMap_cons]
    cases hp : o.published with
    | none =>
      rw [← hk.agg_none hp]
      exact ih
    | some rd =>
      simp only [Agg.State.run, hk.agg_some rd hp, R.bind_ok]
      exact ih
  | case4 st e es hf er hi => rfl
  | case5 st e es hf hi => rfl

theorem loop_error {F : Type} [Agg.Num F] {c : Cfg} (envs : List Env) (st : St F) :
    (Stack.loop c st envs).1.error =
      (match (Stack.loop c st envs).2.2 with
       | some (.err er) => some er
       | _ => st.error) := by
  fun_induction Stack.loop c st envs with
  | case1 st => split <;> rfl
  | case2 st e es hf => rfl
  | case3 st e es hf st' o hi s outs en hl ih =>
    obtain ⟨_, _, _, herr⟩ := iter_refines hi
    rw [hl] at ih
    rw [← herr]
    exact ih
  | case4 st e es hf er hi => rfl
  | case5 st e es hf hi => rfl

theorem loop_published {F : Type} [Agg.Num F] {c : Cfg} (envs : List Env) (st : St F)
    (hs : Reach c st.ts) :
    Reach c (Stack.loop c st envs).1.ts ∧
    ∀ r ∈ published (Stack.loop c st envs).2.1, ∃ s1 s2 e o, Reach c s1 ∧
      Strat.iter c s1 e = .ok (s2, o) ∧ o.published = some r := by
  obtain ⟨aenvs, h⟩ := loop_run (c := c) envs st
  obtain ⟨hr, ho⟩ := run_steps aenvs hs
  rw [h.state] at hr
  refine ⟨hr, fun r hr => ?_⟩
  rw [published_eq, ← h.outs] at hr
  obtain ⟨o, ho', hp⟩ := List.mem_filterMap.mp hr
  obtain ⟨s1, s2, e, h1, hit⟩ := ho o ho'
  exact ⟨s1, s2, e, o, h1, hit, hp⟩

/-- **Every state of a stack run is a state of the abstract machine**, and the `State` is the fold
of `update_from_round` over exactly the rounds published so far. -/
theorem loop_refines {F : Type} [Agg.Num F] {c : Cfg} : ∀ (envs : List Env) (st : St F),
    Reach c st.ts →
    Reach c (Stack.loop c st envs).1.ts ∧
    Agg.State.run st.agg (published (Stack.loop c st envs).2.1) = .ok (Stack.loop c st envs).1.agg := by
  intro envs st hs
  exact ⟨(loop_published envs st hs).1, loop_agg envs st⟩

/-- **Every round the stack publishes is well-formed** (what the aggregator theorems need) —
whatever the sockets do. -/
theorem loop_rounds_wf {F : Type} [Agg.Num F] {c : Cfg} (hc : CfgOk c) (hfm : c.firstTtl ≤ c.maxTtl)
    (hinf : 1 ≤ c.maxInflight) : ∀ (envs : List Env) (st : St F), Reach c st.ts →
    ∀ r ∈ published (Stack.loop c st envs).2.1, Reagg.RoundWF r := by
  intro envs st hs r hr
  obtain ⟨_, _, _, _, h1, hit, hp⟩ := (loop_published envs st hs).2 r hr
  exact Compose.published_round_wf hc hfm hinf h1 hit r hp

/-- **The `State` of the tracer is the aggregation of exactly the rounds it published** (C01 last
clause, C05, C10 for the whole stack): for every accepted configuration, every start time and
every socket-level environment — any I/O errors, waits, datagrams, TCP socket answers, for any
number of iterations — the state after the run is `State::new` folded over the published rounds,
all of which are well-formed; hence (C10) no query of the hop table panics and (C05) every hop of
the default flow equals the re-aggregation of the outcomes published for its TTL. -/
theorem stack_state_is_aggregation {F : Type} [Agg.Num F] (k : TracerCfg) (hc : CfgOk k.strat)
    (hfm : k.strat.firstTtl ≤ k.strat.maxTtl) (hinf : 1 ≤ k.strat.maxInflight) (t0 : Nat)
    (envs : List Env) (st : St F) (h : (Stack.run (F := F) k t0 envs).state = some st) :
    let hist := published (Stack.run (F := F) k t0 envs).outs
    Reach k.strat st.ts ∧
    (∀ r ∈ hist, Reagg.RoundWF r) ∧
    Agg.State.run (Agg.State.new (F := F) k.agg) hist = .ok st.agg ∧
    (∃ hs, st.agg.hops = .ok hs) ∧ (∃ hp, st.agg.targetHop 0 = .ok hp) ∧
    st.agg.roundCount 0 = .ok hist.length ∧
    (∃ fs, Agg.lookupFlow st.agg.flows 0 = some fs ∧
      ∀ t, 1 ≤ t → t ≤ 254 →
        ∃ hp, fs.hops[t - 1]? = some hp ∧
          Reagg.statsOf hp = Reagg.reagg k.agg.maxSamples (Reagg.outcomes t hist)) := by
  rcases run_eq (F := F) k t0 envs with ⟨r, -, -, hrun⟩ | ⟨st0, ops, -, hts, hnew, hrun⟩
  · rw [hrun] at h
    cases h
  · rw [hrun] at h ⊢
    cases h
    intro hist
    have hs0 : Reach k.strat st0.ts := hts ▸ Reach.init t0
    obtain ⟨hreach, hagg⟩ := loop_refines envs st0 hs0
    rw [hnew] at hagg
    have hwf : ∀ r ∈ hist, Reagg.RoundWF r := loop_rounds_wf hc hfm hinf envs st0 hs0
    obtain ⟨st1, hrun1, hhops, _, htgt, _, _, _, hcount⟩ := C10.getters_never_panic (F := F) k.agg hist hwf
    obtain ⟨st2, fs, hrun2, hfs, hR⟩ := Agg.default_flow_reached (F := F) k.agg hist hwf
    cases hagg.symm.trans hrun1
    cases hagg.symm.trans hrun2
    exact ⟨hreach, hwf, hagg, hhops, htgt, hcount, fs, hfs, hR.stats⟩

/-- **A fatal error is recorded in the state** (C09): when the loop ends with an error value, the
state carries exactly that error (`State::set_error` through `handle_error`), the rounds folded
into it so far are untouched, and nothing is published afterwards. -/
theorem loop_error_recorded {F : Type} [Agg.Num F] {c : Cfg} : ∀ (envs : List Env) (st : St F) (er : Err),
    (Stack.loop c st envs).2.2 = some (.err er) → (Stack.loop c st envs).1.error = some er := by
  intro envs st er h
  rw [loop_error, h]

/-- a run never loses an error it did not have: without an error ending, the error field stays as
it was (`None` for a fresh tracer) -/
theorem loop_no_error {F : Type} [Agg.Num F] {c : Cfg} : ∀ (envs : List Env) (st : St F),
    (∀ er, (Stack.loop c st envs).2.2 ≠ some (.err er)) → (Stack.loop c st envs).1.error = st.error := by
  intro envs st h
  rw [loop_error]
  split
  · exact absurd ‹_› (h _)
  · rfl

/-- how the tracer must report probe `p` once response `r` has been accepted for it -/
def completeOf (c : Cfg) (r : Resp) (p : Probe) : Complete :=
  { probe := p, host := r.addr, received := r.recv, kind := (strategyResp c r).kind,
    tos := (strategyResp c r).tos, expCk := (strategyResp c r).expCk,
    actCk := (strategyResp c r).actCk, ext := (strategyResp c r).ext }

/-- **End to end, receive side (core).**  The tracer has run its send step (`hsend`) and
`recv_probe` returns the response `w` (`hrecv`), which is `Accepted` for the probe `p` still awaiting
its first answer.  Then the strategy completes exactly `p`'s slot with the responder's address
(`addrNat w.addr`), the receive time (the clock after the wait) and the response's kind, leaves every
other slot alone, and if this very iteration publishes the round, the published round reports `p`
complete with those data. -/
theorem response_completes_probe {F : Type} [Agg.Num F] {c : Cfg} (hc : CfgOk c) {st : St F}
    (hs : Reach c st.ts) {e : Env} {ch : Chan.Chan} {ts1 : TS} {sent : List (Probe × SendOutcome)}
    {calls : List (List Wire.SockOp)}
    (hsend : sendRequestS c st.chan st.ts e.injs = .ok (ch, ts1, sent, calls)) (w : Wire.WResp)
    (hrecv : (Chan.recv (Chan.advance ch e.dt) e.recv).out = .ok (some w)) (p : Probe)
    (hacc : C02.Accepted c (w.toStrat (st.chan.now + e.dt)) p.seq)
    (haw : answered ts1 p.seq = some p) :
    (w.toStrat (st.chan.now + e.dt)).addr = Wire.addrNat w.addr ∧
    (w.toStrat (st.chan.now + e.dt)).recv = st.chan.now + e.dt ∧
    ∃ ts2, recvResponse c ts1 e.dt (.resp (w.toStrat (st.chan.now + e.dt))) = .ok ts2 ∧
      ts2.buffer[p.seq - ts1.roundSeq]? =
        some (.complete (completeOf c (w.toStrat (st.chan.now + e.dt)) p)) ∧
      (∀ k, k ≠ p.seq - ts1.roundSeq → ts2.buffer[k]? = ts1.buffer[k]?) ∧
      ∀ (st' : St F) (o : Out), Stack.iter c st e = .ok (st', o) →
        o.recv = some w ∧ o.sent = sent ∧
        ∀ r, o.published = some r →
          r.probes[p.seq - ts1.roundSeq]? =
            some (.complete (completeOf c (w.toStrat (st.chan.now + e.dt)) p)) := by
  obtain ⟨hsr, hsame⟩ := sendRequestS_ok hsend
  have hi1 : Inv c ts1 := (sendRequest_frame hc (reach_inv hc hs) hsr).1
  refine ⟨rfl, rfl, ?_⟩
  generalize hresp : w.toStrat (st.chan.now + e.dt) = resp at hacc ⊢
  obtain ⟨_, hrr, hslot, hothers⟩ := Compose.accepted_completes_inv hi1 resp p hacc haw e.dt
  obtain ⟨haddr, hrecvt⟩ := strategyResp_addr_recv c resp
  rw [haddr, hrecvt] at hslot
  refine ⟨_, hrr, hslot, hothers, fun st' o hit => ?_⟩
  have hi2 := inv_afterComplete (inv_tick hi1 e.dt) (strategyResp c resp) (p := p)
    (by rw [answered_tick, hacc.2.2]; exact haw)
  -- the stages of this iteration are those above: its send step is `hsend`, its response `w`
  obtain ⟨_, _, ro, _, hk⟩ := iter_stages hit
  cases hsend.symm.trans hk.send
  have hro := hk.recv
  rw [absRecv, hrecv, hsame.now, recvOutcome, hresp] at hro
  cases hro
  cases hrr.symm.trans hk.resp
  refine ⟨(R.ok.inj (hrecv.symm.trans hk.out)).symm, rfl, fun r hr => ?_⟩
  -- `p` belongs to the round in progress, so its slot is among those the round records
  have hin := (hi2.slots _ _ p hslot rfl).2
    (by simpa [afterComplete, tick] using (answered_spec hi1 haw).round)
  have hu := hk.round
  rw [hr, updateRound_eq hc hi2] at hu
  split at hu
  · cases (Prod.mk.inj (R.ok.inj hu)).2
    simp only [roundOf]
    rw [List.getElem?_take, if_pos hin.1]
    exact hslot
  · cases (Prod.mk.inj (R.ok.inj hu)).2

/-- **End to end, receive side, ICMP path.**  For an ICMP or UDP trace: the receive socket is
readable and delivers `bytes` which the family's receive code decodes to a response `w` that is
`Accepted` for the probe `p` — the conclusion of every C02 theorem for a conforming quotation of the
bytes dispatched for `p`.  Then `recv_probe` returns `w` and `response_completes_probe` applies. -/
theorem datagram_completes_probe {F : Type} [Agg.Num F] {c : Cfg} (hc : CfgOk c) {st : St F}
    (hs : Reach c st.ts) {e : Env} {ch : Chan.Chan} {ts1 : TS} {sent : List (Probe × SendOutcome)}
    {calls : List (List Wire.SockOp)}
    (hsend : sendRequestS c st.chan st.ts e.injs = .ok (ch, ts1, sent, calls))
    (hp : st.chan.cfg.proto ≠ .tcp) (hrd : e.recv.readable = .yes) (src bytes : Buf)
    (hdg : e.recv.dgram = .data src bytes) (w : Wire.WResp)
    (hw : Wire.recvIcmp st.chan.cfg (bytes.take 1024) src = .ok (some w)) (p : Probe)
    (hacc : C02.Accepted c (w.toStrat (st.chan.now + e.dt)) p.seq)
    (haw : answered ts1 p.seq = some p) :
    (Chan.recv (Chan.advance ch e.dt) e.recv).out = .ok (some w) ∧
    (w.toStrat (st.chan.now + e.dt)).addr = Wire.addrNat w.addr ∧
    (w.toStrat (st.chan.now + e.dt)).recv = st.chan.now + e.dt ∧
    ∃ ts2, recvResponse c ts1 e.dt (.resp (w.toStrat (st.chan.now + e.dt))) = .ok ts2 ∧
      ts2.buffer[p.seq - ts1.roundSeq]? =
        some (.complete (completeOf c (w.toStrat (st.chan.now + e.dt)) p)) ∧
      (∀ k, k ≠ p.seq - ts1.roundSeq → ts2.buffer[k]? = ts1.buffer[k]?) ∧
      ∀ (st' : St F) (o : Out), Stack.iter c st e = .ok (st', o) →
        o.recv = some w ∧ o.sent = sent ∧
        ∀ r, o.published = some r →
          r.probes[p.seq - ts1.roundSeq]? =
            some (.complete (completeOf c (w.toStrat (st.chan.now + e.dt)) p)) := by
  have hsame := (sendRequestS_ok hsend).2
  have hrecv : (Chan.recv (Chan.advance ch e.dt) e.recv).out = .ok (some w) := by
    have hcfg := hsame.advance_cfg e.dt
    rw [Chan.recv_nontcp _ _ (hcfg ▸ hp), Chan.recvIcmpPart_data _ hrd hdg, hcfg]
    exact hw
  exact ⟨hrecv, response_completes_probe (F := F) hc hs hsend w hrecv p hacc haw⟩

/-- **End to end, receive side, TCP handshake.**  For a TCP trace: among the outstanding probes
that are still young, the first whose socket is writable is `x`, the socket of probe `p` (same
ports), and it reports connected (peer known), refused, or an ICMP error.  Then `recv_probe` answers
with a response accepted for exactly `p` (`C02.tcp_handshake`), and `p`'s slot is completed with the
target's address (or the reporting router's) and the clock after the wait. -/
theorem handshake_completes_probe {F : Type} [Agg.Num F] {c : Cfg} (hc : CfgOk c) {st : St F}
    (hs : Reach c st.ts) {e : Env} {ch : Chan.Chan} {ts1 : TS} {sent : List (Probe × SendOutcome)}
    {calls : List (List Wire.SockOp)}
    (hsend : sendRequestS c st.chan st.ts e.injs = .ok (ch, ts1, sent, calls))
    (hcs : C02.Compat st.chan.cfg c) (hp : st.chan.cfg.proto = .tcp)
    (ts0 : TS) (ttl : Nat) (p : Probe) (hem : C11.emitted c ts0 ttl = .ok p)
    (haw : answered ts1 p.seq = some p) (x : Chan.TcpEntry × Chan.SockEnv)
    (hfw : (Chan.firstWritable (Chan.kept (Chan.advance ch e.dt) e.recv)).2.1 = some x)
    (hports : x.1.srcPort = p.srcPort ∧ x.1.destPort = p.destPort)
    (hsock : x.2 = .refused ∨ (∃ a, x.2 = .connected (some a)) ∨ (∃ a, x.2 = .unreach a)) :
    ∃ w, (Chan.recv (Chan.advance ch e.dt) e.recv).out = .ok (some w) ∧
      ∃ ts2, recvResponse c ts1 e.dt (.resp (w.toStrat (st.chan.now + e.dt))) = .ok ts2 ∧
        ts2.buffer[p.seq - ts1.roundSeq]? =
          some (.complete (completeOf c (w.toStrat (st.chan.now + e.dt)) p)) ∧
        (∀ k, k ≠ p.seq - ts1.roundSeq → ts2.buffer[k]? = ts1.buffer[k]?) ∧
        ∀ (st' : St F) (o : Out), Stack.iter c st e = .ok (st', o) →
          ∀ r, o.published = some r →
            r.probes[p.seq - ts1.roundSeq]? =
              some (.complete (completeOf c (w.toStrat (st.chan.now + e.dt)) p)) := by
  have hcfg := (sendRequestS_ok hsend).2.advance_cfg e.dt
  obtain ⟨sock, hsk, hto⟩ := Chan.tcpOutcome_recvTcp (Chan.advance ch e.dt).cfg x.1 hsock
  rw [hcfg, hports.1, hports.2] at hto
  obtain ⟨w, hw, hacc, _⟩ := C02.tcp_handshake st.chan.cfg c hcs hp ts0 ttl p hem sock hsk (st.chan.now + e.dt)
  have hrecv : (Chan.recv (Chan.advance ch e.dt) e.recv).out = .ok (some w) := by
    rw [Chan.recv_tcp _ _ (hcfg ▸ hp), hfw]
    simp only [hcfg, hto, hw]
  obtain ⟨_, _, ts2, h1, h2, h3, h4⟩ := response_completes_probe (F := F) hc hs hsend w hrecv p hacc haw
  exact ⟨w, hrecv, ts2, h1, h2, h3, fun st' o hit r hr => (h4 st' o hit).2.2 r hr⟩

/-- **Socket to published round, every cell.**  `hC02` is verbatim the conclusion of *every* positive
C02 theorem (`icmp_v4`, `udp_v4`, `udp_v4_unprivileged`, `tcp_v4`, `icmp_v6`, `udp_v6`,
`udp_v6_unprivileged`, `tcp_v6`, `echo_reply`) for the datagram `bytes` the receive socket delivers:
it decodes to a response from `responder` of kind `kind`, accepted for probe `p`.  Then — for an
ICMP or UDP trace, `p` awaiting its answer, the datagram fitting the receive buffer — `p` and only
`p` is reported complete with that responder, kind and the clock after the wait, in the tracer state
and in the round if this iteration publishes it. -/
theorem socket_to_round {F : Type} [Agg.Num F] {c : Cfg} (hc : CfgOk c) {st : St F}
    (hs : Reach c st.ts) {e : Env} {ch : Chan.Chan} {ts1 : TS} {sent : List (Probe × SendOutcome)}
    {calls : List (List Wire.SockOp)}
    (hsend : sendRequestS c st.chan st.ts e.injs = .ok (ch, ts1, sent, calls))
    (hp : st.chan.cfg.proto ≠ .tcp) (p : Probe) (haw : answered ts1 p.seq = some p)
    (src bytes responder : Buf) (kind : RespKind) (hfit : bytes.length ≤ 1024)
    (hrd : e.recv.readable = .yes) (hdg : e.recv.dgram = .data src bytes)
    (hC02 : ∃ w, Wire.recvIcmp st.chan.cfg bytes src = .ok (some w) ∧ w.addr = responder ∧ w.kind = kind ∧
      C02.Accepted c (w.toStrat (st.chan.now + e.dt)) p.seq) :
    ∃ resp : Resp, resp.addr = Wire.addrNat responder ∧ resp.recv = st.chan.now + e.dt ∧ resp.kind = kind ∧
      ∃ ts2, recvResponse c ts1 e.dt (.resp resp) = .ok ts2 ∧
        ts2.buffer[p.seq - ts1.roundSeq]? = some (.complete (completeOf c resp p)) ∧
        (∀ j, j ≠ p.seq - ts1.roundSeq → ts2.buffer[j]? = ts1.buffer[j]?) ∧
        ∀ (st' : St F) (out : Out), Stack.iter c st e = .ok (st', out) →
          ∀ r, out.published = some r →
            r.probes[p.seq - ts1.roundSeq]? = some (.complete (completeOf c resp p)) := by
  obtain ⟨w, hw, hwa, hwk, hacc⟩ := hC02
  have hw' : Wire.recvIcmp st.chan.cfg (bytes.take 1024) src = .ok (some w) := by
    rw [List.take_of_length_le hfit]; exact hw
  obtain ⟨_, ha, hrt, ts2, h1, h2, h3, h4⟩ := datagram_completes_probe (F := F) hc hs hsend
    hp hrd src _ hdg w hw' p hacc haw
  exact ⟨w.toStrat (st.chan.now + e.dt), by rw [ha, hwa], hrt, by simpa [Wire.WResp.toStrat] using hwk,
    ts2, h1, h2, h3, fun st' out hit r hr => (h4 st' out hit).2.2 r hr⟩

/-- **ICMP over IPv4, socket to published round** (`socket_to_round` ∘ `C02.icmp_v4`): a
router or the target returns the Echo Request the tracer dispatched for probe `p` — quoted
(`quote4`: TOS / total length / TTL / header checksum rewritten, IP header + 8 + `n` octets, any
`n`) in a Time Exceeded or Destination Unreachable message of any embedding (plain, RFC 4884
compliant or legacy, any extension structure), from any responder, in a datagram that fits the
receive buffer.  Then `p` — and only `p` — is reported complete, with that responder as its host
and the clock after the wait as its receive time. -/
theorem icmp_v4_end_to_end {F : Type} [Agg.Num F] {c : Cfg} (hc : CfgOk c) {st : St F}
    (hs : Reach c st.ts) {e : Env} {ch : Chan.Chan} {ts1 : TS} {sent : List (Probe × SendOutcome)}
    {calls : List (List Wire.SockOp)}
    (hsend : sendRequestS c st.chan st.ts e.injs = .ok (ch, ts1, sent, calls))
    (hcs : C02.Compat st.chan.cfg c) (haddr : st.chan.cfg.AddrOk) (hv : st.chan.cfg.v6 = false)
    (hp : st.chan.cfg.proto = .icmp) (hsz : Wire.SizeOk st.chan.cfg)
    (ts0 : TS) (ttl : Nat) (p : Probe) (hem : C11.emitted c ts0 ttl = .ok p) (hpr : Wire.ProbeOk p)
    (haw : answered ts1 p.seq = some p)
    (k : Quote.KernelFill) (d : Buf) (hd : Quote.wireDatagram st.chan.cfg k p = some d)
    (m : C02.ErrMsg false) (o : Quote.Outer4) (responder src : Buf) (hr : responder.length = 4)
    (mu : Quote.Mut4) (n : Nat) (hb : Wire.BodyOk false (Quote.quote4 mu d n) m.b)
    (hfit : (Quote.deliver st.chan.cfg o responder
        (Quote.icmpMessage false m.h m.b (Quote.quote4 mu d n))).length ≤ 1024)
    (hrd : e.recv.readable = .yes)
    (hdg : e.recv.dgram = .data src (Quote.deliver st.chan.cfg o responder
        (Quote.icmpMessage false m.h m.b (Quote.quote4 mu d n)))) :
    ∃ resp : Resp, resp.addr = Wire.addrNat responder ∧ resp.recv = st.chan.now + e.dt ∧
      resp.kind = m.kind ∧
      ∃ ts2, recvResponse c ts1 e.dt (.resp resp) = .ok ts2 ∧
        ts2.buffer[p.seq - ts1.roundSeq]? = some (.complete (completeOf c resp p)) ∧
        (∀ j, j ≠ p.seq - ts1.roundSeq → ts2.buffer[j]? = ts1.buffer[j]?) ∧
        ∀ (st' : St F) (out : Out), Stack.iter c st e = .ok (st', out) →
          ∀ r, out.published = some r →
            r.probes[p.seq - ts1.roundSeq]? = some (.complete (completeOf c resp p)) :=
  socket_to_round (F := F) hc hs hsend (by rw [hp]; simp) p haw src _ responder m.kind hfit hrd hdg
    (C02.icmp_v4 st.chan.cfg c hcs haddr hv hp hsz ts0 ttl p hem hpr k d hd m o responder src hr mu n hb
      (st.chan.now + e.dt))

/-- **UDP over IPv4 (classic, Paris, Dublin; every port direction), socket to published round**
(`socket_to_round` ∘ `C02.udp_v4`). -/
theorem udp_v4_end_to_end {F : Type} [Agg.Num F] {c : Cfg} (hc : CfgOk c) {st : St F}
    (hs : Reach c st.ts) {e : Env} {ch : Chan.Chan} {ts1 : TS} {sent : List (Probe × SendOutcome)}
    {calls : List (List Wire.SockOp)}
    (hsend : sendRequestS c st.chan st.ts e.injs = .ok (ch, ts1, sent, calls))
    (hcs : C02.Compat st.chan.cfg c) (haddr : st.chan.cfg.AddrOk) (hv : st.chan.cfg.v6 = false)
    (hp : st.chan.cfg.proto = .udp) (hpriv : st.chan.cfg.privileged = true) (hsz : Wire.SizeOk st.chan.cfg)
    (ts0 : TS) (ttl : Nat) (p : Probe) (hem : C11.emitted c ts0 ttl = .ok p) (hpr : Wire.ProbeOk p)
    (haw : answered ts1 p.seq = some p)
    (k : Quote.KernelFill) (d : Buf) (hd : Quote.wireDatagram st.chan.cfg k p = some d)
    (m : C02.ErrMsg false) (o : Quote.Outer4) (responder src : Buf) (hr : responder.length = 4)
    (mu : Quote.Mut4) (n : Nat) (hb : Wire.BodyOk false (Quote.quote4 mu d n) m.b)
    (hfit : (Quote.deliver st.chan.cfg o responder
        (Quote.icmpMessage false m.h m.b (Quote.quote4 mu d n))).length ≤ 1024)
    (hrd : e.recv.readable = .yes)
    (hdg : e.recv.dgram = .data src (Quote.deliver st.chan.cfg o responder
        (Quote.icmpMessage false m.h m.b (Quote.quote4 mu d n)))) :
    ∃ resp : Resp, resp.addr = Wire.addrNat responder ∧ resp.recv = st.chan.now + e.dt ∧ resp.kind = m.kind ∧
      ∃ ts2, recvResponse c ts1 e.dt (.resp resp) = .ok ts2 ∧
        ts2.buffer[p.seq - ts1.roundSeq]? = some (.complete (completeOf c resp p)) ∧
        (∀ j, j ≠ p.seq - ts1.roundSeq → ts2.buffer[j]? = ts1.buffer[j]?) ∧
        ∀ (st' : St F) (out : Out), Stack.iter c st e = .ok (st', out) →
          ∀ r, out.published = some r →
            r.probes[p.seq - ts1.roundSeq]? = some (.complete (completeOf c resp p)) :=
  socket_to_round (F := F) hc hs hsend (by rw [hp]; simp) p haw src _ responder m.kind hfit hrd hdg
    (C02.udp_v4 st.chan.cfg c hcs haddr hv hp hpriv hsz ts0 ttl p hem hpr k d hd m o responder src hr mu n hb
      (st.chan.now + e.dt))

/-- **ICMP over IPv6, socket to published round** (`socket_to_round` ∘ `C02.icmp_v6`). -/
theorem icmp_v6_end_to_end {F : Type} [Agg.Num F] {c : Cfg} (hc : CfgOk c) {st : St F}
    (hs : Reach c st.ts) {e : Env} {ch : Chan.Chan} {ts1 : TS} {sent : List (Probe × SendOutcome)}
    {calls : List (List Wire.SockOp)}
    (hsend : sendRequestS c st.chan st.ts e.injs = .ok (ch, ts1, sent, calls))
    (hcs : C02.Compat st.chan.cfg c) (haddr : st.chan.cfg.AddrOk) (hv : st.chan.cfg.v6 = true)
    (hp : st.chan.cfg.proto = .icmp) (hsz : Wire.SizeOk st.chan.cfg)
    (ts0 : TS) (ttl : Nat) (p : Probe) (hem : C11.emitted c ts0 ttl = .ok p) (hpr : Wire.ProbeOk p)
    (haw : answered ts1 p.seq = some p)
    (k : Quote.KernelFill) (d : Buf) (hd : Quote.wireDatagram st.chan.cfg k p = some d)
    (m : C02.ErrMsg st.chan.cfg.v6) (o : Quote.Outer4) (responder : Buf) (hr : responder.length = 16)
    (mu : Quote.Mut6) (n : Nat) (hb : Wire.BodyOk st.chan.cfg.v6 (Quote.quote6 mu d n) m.b)
    (hfit : (Quote.deliver st.chan.cfg o responder
        (Quote.icmpMessage st.chan.cfg.v6 m.h m.b (Quote.quote6 mu d n))).length ≤ 1024)
    (hrd : e.recv.readable = .yes)
    (hdg : e.recv.dgram = .data responder (Quote.deliver st.chan.cfg o responder
        (Quote.icmpMessage st.chan.cfg.v6 m.h m.b (Quote.quote6 mu d n)))) :
    ∃ resp : Resp, resp.addr = Wire.addrNat responder ∧ resp.recv = st.chan.now + e.dt ∧ resp.kind = m.kind ∧
      ∃ ts2, recvResponse c ts1 e.dt (.resp resp) = .ok ts2 ∧
        ts2.buffer[p.seq - ts1.roundSeq]? = some (.complete (completeOf c resp p)) ∧
        (∀ j, j ≠ p.seq - ts1.roundSeq → ts2.buffer[j]? = ts1.buffer[j]?) ∧
        ∀ (st' : St F) (out : Out), Stack.iter c st e = .ok (st', out) →
          ∀ r, out.published = some r →
            r.probes[p.seq - ts1.roundSeq]? = some (.complete (completeOf c resp p)) :=
  socket_to_round (F := F) hc hs hsend (by rw [hp]; simp) p haw responder _ responder m.kind hfit hrd hdg
    (C02.icmp_v6 st.chan.cfg c hcs haddr hv hp hsz ts0 ttl p hem hpr k d hd m o responder hr mu n hb
      (st.chan.now + e.dt))

/-- **Echo Reply from the target (both families), socket to published round**
(`socket_to_round` ∘ `C02.echo_reply`). -/
theorem echo_reply_end_to_end {F : Type} [Agg.Num F] {c : Cfg} (hc : CfgOk c) {st : St F}
    (hs : Reach c st.ts) {e : Env} {ch : Chan.Chan} {ts1 : TS} {sent : List (Probe × SendOutcome)}
    {calls : List (List Wire.SockOp)}
    (hsend : sendRequestS c st.chan st.ts e.injs = .ok (ch, ts1, sent, calls))
    (hcs : C02.Compat st.chan.cfg c) (haddr : st.chan.cfg.AddrOk) (hp : st.chan.cfg.proto = .icmp)
    (ts0 : TS) (ttl : Nat) (p : Probe) (hem : C11.emitted c ts0 ttl = .ok p) (hpr : Wire.ProbeOk p)
    (haw : answered ts1 p.seq = some p) (ck n : Nat) (o : Quote.Outer4) (ck0 ck1 : UInt8)
    (responder src : Buf) (hr : responder.length = if st.chan.cfg.v6 then 16 else 4)
    (hsrc : st.chan.cfg.v6 = true → src = responder)
    (hfit : (Quote.echoReply st.chan.cfg o ck0 ck1 responder (Wire.echoPkt st.chan.cfg ck p.ident p.seq n)).length ≤ 1024)
    (hrd : e.recv.readable = .yes)
    (hdg : e.recv.dgram = .data src
      (Quote.echoReply st.chan.cfg o ck0 ck1 responder (Wire.echoPkt st.chan.cfg ck p.ident p.seq n))) :
    ∃ resp : Resp, resp.addr = Wire.addrNat responder ∧ resp.recv = st.chan.now + e.dt ∧
      resp.kind = .echoReply 0 ∧
      ∃ ts2, recvResponse c ts1 e.dt (.resp resp) = .ok ts2 ∧
        ts2.buffer[p.seq - ts1.roundSeq]? = some (.complete (completeOf c resp p)) ∧
        (∀ j, j ≠ p.seq - ts1.roundSeq → ts2.buffer[j]? = ts1.buffer[j]?) ∧
        ∀ (st' : St F) (out : Out), Stack.iter c st e = .ok (st', out) →
          ∀ r, out.published = some r →
            r.probes[p.seq - ts1.roundSeq]? = some (.complete (completeOf c resp p)) :=
  socket_to_round (F := F) hc hs hsend (by rw [hp]; simp) p haw src _ responder (.echoReply 0) hfit hrd hdg
    (C02.echo_reply st.chan.cfg c hcs haddr hp ts0 ttl p hem hpr ck n o ck0 ck1 responder src hr hsrc
      (st.chan.now + e.dt))

/-- the machine-valued part of a builder-made configuration: `TraceId(u16)`, `Port(u16)` -/
def CfgMach (c : Cfg) : Prop :=
  c.traceId < 65536 ∧
  (match c.portDir with
   | .fixedSrc a => a < 65536
   | .fixedDest a => a < 65536
   | .fixedBoth a b => a < 65536 ∧ b < 65536
   | .none => True)

theorem probeData_dublin {c : Cfg} {s : TS} {sp dp id fl : Nat} (h : probeData c s = .ok (sp, dp, id, fl))
    (hd : Wire.isDublin fl = true) : c.proto = .udp ∧ c.strat = .dublin := by
  revert h
  fun_cases probeData c s
  all_goals intro h
  all_goals cases h
  -- the flags are 2 in the Dublin cases of a UDP trace, 0 or 1 in all others
  all_goals first
    | exact ⟨‹c.proto = .udp›, ‹c.strat = .dublin›⟩
    | cases hd

theorem goodProbe_of_probeData {c : Cfg} {cc : Wire.ChanCfg}
    (hcs : C02.Compat cc c) {s : TS} (hi : Inv c s) {p : Probe}
    (hd : probeData c s = .ok (p.srcPort, p.destPort, p.ident, p.flags)) (hseq : p.seq = s.sequence) :
    Channel.GoodProbe cc p := by
  intro hpu _ _ hv6 hdub
  obtain ⟨_, hstrat⟩ := probeData_dublin hd hdub
  -- `sequence = roundSeq + count`, `roundSeq < initialSeq + 512` (Dublin over IPv6), `count ≤ ttl ≤ 255` (UDP)
  have hrs := hi.rs_ge
  have hrl := hi.rs_lt
  have hse := hi.seq_eq
  have hct := hi.count_ttl (by rw [← hcs.2.1, hpu]; simp)
  have hle := hi.ttl_le
  have hms : maxSeqN c = c.initialSeq + 512 := by
    simp [maxSeqN, hstrat, hcs.1 ▸ hv6, BUFFER_SIZE_eq]
  rw [hcs.2.2.1, hseq]
  omega

structure ChanGood (c : Cfg) (ch : Chan.Chan) : Prop where
  inv : Channel.Inv ch
  compat : C02.Compat ch.cfg c
  addr : ch.cfg.AddrOk

theorem ChanGood.of_eq {c : Cfg} {a b : Chan.Chan} (h : ChanGood c a) (h1 : b.cfg = a.cfg)
    (h2 : b.hasSend = a.hasSend) : ChanGood c b :=
  ⟨h.inv.of_eq h1 h2, h1 ▸ h.compat, h1 ▸ h.addr⟩

theorem send_good_no_panic {c : Cfg} {ch : Chan.Chan} (hg : ChanGood c ch) {p : Probe}
    (hp : Channel.GoodProbe ch.cfg p) (inj : Chan.Inject) : (Chan.send ch p inj).2 ≠ .panic :=
  Channel.send_never_panics ch hg.inv p inj (Channel.dispatch_never_panics ch.cfg hg.addr p hp)

theorem tcpLoopS_no_panic {c : Cfg} (hc : CfgOk c) (htcp : c.proto = .tcp) :
    ∀ (injs : List Chan.Inject) (ch : Chan.Chan) (s : TS) (p : Probe) (log : List (Probe × SendOutcome))
      (calls : List (List Wire.SockOp)), ChanGood c ch → Alloc c s p → Channel.GoodProbe ch.cfg p →
      tcpLoopS c ch s p log calls injs ≠ .panic := by
  intro injs
  induction injs with
  | nil =>
    intro ch s p log calls hg ha hp
    simp only [tcpLoopS]
    exact finishSend_no_panic ha log calls (send_good_no_panic hg hp none)
  | cons inj rest ih =>
    intro ch s p log calls hg ha hp
    simp only [tcpLoopS]
    have hnp := send_good_no_panic hg hp inj
    have hsc := Chan.send_same ch p inj
    split
    · -- `AddressInUse`: the probe is re-issued, if the round has room
      simp only [roundHasCapacity_eq ha.inv, R.bind_ok]
      by_cases hcap : s.count < BUFFER_SIZE
      · obtain ⟨p', hre, hp'⟩ := reissueProbe_spec hc ha hcap s.now
        simp only [hcap, decide_true, if_true, hre, R.bind_ok]
        refine ih _ _ p' _ _ (hg.of_eq hsc.cfg hsc.hasSend) (alloc_afterReissue ha hcap htcp hp') ?_
        rw [hsc.cfg]
        exact goodProbe_of_probeData hg.compat ha.inv hp'.data hp'.seq
      · simp [hcap]
    · exact finishSend_no_panic ha log calls hnp

/-- **The send step of the stack never panics**: in every reachable state, with a channel made by
`connect` for the same trace, whatever errors strike the socket calls.  (`hm` is not used: the
dispatch does not care how large the probe's ports and identifier are, `Channel.dispatch_never_panics`.) -/
theorem sendRequestS_no_panic {c : Cfg} (hc : CfgOk c) (hm : CfgMach c) {ch : Chan.Chan}
    (hg : ChanGood c ch) {s : TS} (hi : Inv c s) (injs : List Chan.Inject) :
    sendRequestS c ch s injs ≠ .panic := by
  unfold sendRequestS
  simp only [canSendR_eq hc hi, R.bind_ok]
  by_cases hcs : canSend c s = true
  · rw [if_pos hcs]
    have h254 : s.ttl ≤ 254 := Nat.le_trans (canSend_iff.1 hcs).2.1 hc.max_le
    unfold doSendsS
    by_cases hcap : s.count < BUFFER_SIZE
    · obtain ⟨p, hnp, hp1⟩ := nextProbe_spec hc hi hcap h254 s.now
      have ha := alloc_afterNext hi hcap h254 hp1
      have hgp : Channel.GoodProbe ch.cfg p := goodProbe_of_probeData hg.compat hi hp1.data hp1.seq
      cases hp : c.proto with
      | tcp =>
        simp only [roundHasCapacity_eq hi, hcap, decide_true, if_true, hnp, R.bind_ok]
        exact tcpLoopS_no_panic hc hp injs ch _ p [] [] hg ha hgp
      | icmp | udp =>
        simp only [hnp, R.bind_ok]
        exact finishSend_no_panic ha [] [] (send_good_no_panic hg hgp _)
    · -- only a TCP round can fill the buffer
      have hp : c.proto = .tcp := Decidable.byContradiction fun hp => hcap (hi.non_tcp_cap hp)
      simp [hp, roundHasCapacity_eq hi, hcap]
  · simp [hcs]

/-- the `State` of a running tracer: `State::new` folded over well-formed rounds -/
def AggOk {F : Type} [Agg.Num F] (agg : Agg.State F) : Prop :=
  ∃ (acfg : Agg.Cfg) (hist : List Round), (∀ r ∈ hist, Reagg.RoundWF r) ∧
    Agg.State.run (Agg.State.new (F := F) acfg) hist = .ok agg

theorem aggOk_step {F : Type} [Agg.Num F] {agg : Agg.State F} (h : AggOk agg) {r : Round}
    (hr : Reagg.RoundWF r) : ∃ agg', agg.updateFromRound r = .ok agg' ∧ AggOk agg' := by
  obtain ⟨acfg, hist, hwf, hrun⟩ := h
  obtain ⟨st, hst, hspec, _⟩ := Agg.State.run_spec_new (F := F) acfg hist hwf
  cases hrun.symm.trans hst
  obtain ⟨agg', hu, _⟩ := Agg.updateFromRound_spec agg r hspec.inv hr
  refine ⟨agg', hu, acfg, hist ++ [r], ?_, by rw [Agg.State.run_append, hrun]; simp [Agg.State.run, hu]⟩
  simpa [or_imp, forall_and] using ⟨hwf, hr⟩

/-- the invariant of a running tracer -/
structure Good {F : Type} [Agg.Num F] (c : Cfg) (st : St F) : Prop where
  reach : Reach c st.ts
  chan : ChanGood c st.chan
  agg : AggOk st.agg

/-- the receive socket of an IPv6 tracer does not report an `AF_INET` peer (what the kernel
guarantees; `C04.recv_v6_v4_sockaddr_panics` is the witness that the hypothesis is needed) -/
def EnvOk (cc : Wire.ChanCfg) (e : Env) : Prop :=
  cc.v6 = true → ∀ src bytes, e.recv.dgram = .data src bytes → src.length ≠ 4

/-- **One iteration of the whole stack never panics, and keeps the invariant** — for every
configuration the builder accepts (`CfgOk`, machine-valued identifiers and ports, `first_ttl ≤
max_ttl`, `max_inflight ≥ 1`), every reachable state and every socket-level environment: any I/O
error at any socket call of any `send_probe`, any wait, any bytes on the receive socket (truncated,
oversized, hostile), any answers of the outstanding TCP sockets. -/
theorem iter_never_panics {F : Type} [Agg.Num F] {c : Cfg} (hc : CfgOk c) (hm : CfgMach c)
    (hfm : c.firstTtl ≤ c.maxTtl) (hinf : 1 ≤ c.maxInflight) {st : St F} (hg : Good c st) (e : Env)
    (he : EnvOk st.chan.cfg e) :
    Stack.iter c st e ≠ .panic ∧
    ∀ st' o, Stack.iter c st e = .ok (st', o) → Good c st' ∧ st'.chan.cfg = st.chan.cfg := by
  have hi := reach_inv hc hg.reach
  -- a round the abstract iteration publishes is well-formed, so folding it into the `State` succeeds
  have hfold : ∀ {s' pub} {ro : RecvOutcome} {sent : List (Probe × SendOutcome)},
      Strat.iter c st.ts { sends := sent.map (·.2), dt := e.dt, recv := ro } =
        .ok (s', { sent := sent, published := pub }) →
      ∀ rd, pub = some rd → ∃ agg', st.agg.updateFromRound rd = .ok agg' ∧ AggOk agg' :=
    fun hit rd hp => aggOk_step hg.agg (Compose.published_round_wf hc hfm hinf hg.reach hit rd hp)
  constructor
  · refine R.bind_ne_panic (sendRequestS_no_panic hc hm hg.chan hi e.injs) fun ⟨ch, ts1, sent, calls⟩ hs => ?_
    obtain ⟨hsr, hsame⟩ := sendRequestS_ok hs
    have hi1 := (sendRequest_frame hc hi hsr).1
    have hcfg := hsame.advance_cfg e.dt
    have hnp := Channel.recv_never_panics (Chan.advance ch e.dt) (hcfg ▸ hg.chan.addr) e.recv
      (by rw [hcfg]; exact he)
    refine R.bind_ne_panic (recvOutcome_no_panic hnp) fun ro _ => ?_
    have hit := iter_eq hc hi { sends := sent.map (·.2), dt := e.dt, recv := ro }
    simp only [hsr] at hit
    rw [recvResponse_eq hi1]
    by_cases hnf : ro = .fatal
    · simp [hnf]
    · rw [if_neg hnf] at hit ⊢
      simp only [R.bind_ok, updateRound_eq hc (inv_afterRecv hi1 e.dt ro)]
      by_cases hrc : roundComplete c (afterRecv c ts1 e.dt ro) = true
      · rw [if_pos hrc] at hit
        obtain ⟨agg', ha, _⟩ := hfold hit _ rfl
        simp [hrc, ha]
      · simp [hrc]
  · intro st' o h
    obtain ⟨ch, _, ro, _, hk⟩ := iter_stages h
    have hsend := (sendRequestS_ok hk.send).2
    have hrecv := Chan.recv_same (Chan.advance ch e.dt) e.recv
    rw [← hk.chan] at hrecv
    have hcfg := hrecv.cfg.trans hsend.cfg
    have hsock := hrecv.hasSend.trans hsend.hasSend
    refine ⟨⟨.step _ _ hg.reach hk.iter, hg.chan.of_eq hcfg hsock, ?_⟩, hcfg⟩
    cases hp : o.published with
    | none => exact hk.agg_none hp ▸ hg.agg
    | some rd =>
      obtain ⟨agg', ha, hok⟩ := hfold hk.iter rd hp
      cases (hk.agg_some rd hp).symm.trans ha
      exact hok

/-- **`Tracer::run` never panics** (C04 ∘ C09 ∘ C16 for the whole stack): for every configuration the
builder accepts and every socket-level environment list, of any length, the run — connect, the
loop, the handler — ends with `Ok(())`, with an error *value* (recorded in the state), or is still
running when the environment list ends; it never ends in a panic. -/
theorem loop_never_panics {F : Type} [Agg.Num F] {c : Cfg} (hc : CfgOk c) (hm : CfgMach c)
    (hfm : c.firstTtl ≤ c.maxTtl) (hinf : 1 ≤ c.maxInflight) : ∀ (envs : List Env) (st : St F),
    Good c st → (∀ e ∈ envs, EnvOk st.chan.cfg e) → (Stack.loop c st envs).2.2 ≠ some .panic := by
  intro envs st
  fun_induction Stack.loop c st envs with
  | case1 st =>
    intro _ _
    split <;> simp
  | case2 st e es hf =>
    intro _ _
    simp
  | case3 st e es hf st' o hi s outs en hl ih =>
    intro hg he
    obtain ⟨hg', hcfg⟩ := (iter_never_panics hc hm hfm hinf hg e (he e (by simp))).2 st' o hi
    rw [hl] at ih
    exact ih hg' (fun e' he' => by rw [hcfg]; exact he e' (by simp [he']))
  | case4 st e es hf er hi =>
    intro _ _
    simp
  | case5 st e es hf hi =>
    intro hg he
    exact absurd hi (iter_never_panics hc hm hfm hinf hg e (he e (by simp))).1

/-- what `Builder::build` guarantees about the configuration it splits between the layers
(`make_channel_config`, `make_strategy_config`): the strategy's share is accepted (`CfgOk`, `u16`
identifiers and ports, `first_ttl ≤ max_ttl`, `max_inflight ≥ 1` as the CLI enforces), source and
target are addresses of one family, and both layers are configured for the same trace -/
structure TracerCfgOk (k : TracerCfg) : Prop where
  cfg : CfgOk k.strat
  mach : CfgMach k.strat
  ttls : k.strat.firstTtl ≤ k.strat.maxTtl
  inflight : 1 ≤ k.strat.maxInflight
  src_len : k.conn.src.length = 4 ∨ k.conn.src.length = 16
  dst_len : k.conn.dst.length = k.conn.src.length
  v6 : Chan.isV6 k.conn.src = k.strat.v6
  proto : k.conn.proto = k.strat.proto
  initial : k.conn.initialSeq = k.strat.initialSeq
  target : Wire.addrNat k.conn.dst = k.strat.target

/-- **`Tracer::run` never panics.**  For every configuration `Builder::build` accepts, every start
time and every list of socket-level environments (of any length; the IPv6 receive socket never
reporting an `AF_INET` peer), the run ends with `Ok(())`, ends with an error value, or is still
going when the list ends — never with a panic; a packet size above 1024 is an error value from
`connect`. -/
theorem run_never_panics {F : Type} [Agg.Num F] (k : TracerCfg) (hk : TracerCfgOk k) (t0 : Nat)
    (envs : List Env)
    (henv : ∀ e ∈ envs, Chan.isV6 k.conn.src = true → ∀ src bytes, e.recv.dgram = .data src bytes → src.length ≠ 4) :
    (Stack.run (F := F) k t0 envs).ended ≠ some .panic := by
  have hf : Chan.isV6 k.conn.src = Chan.isV6 k.conn.dst := by simp [Chan.isV6, hk.dst_len]
  rcases run_eq (F := F) k t0 envs with ⟨r, -, rfl, hrun⟩ | ⟨st0, ops, hcn, hts, hnew, hrun⟩
  · rw [hrun]
    exact fun h => R.bind_ne_panic (Channel.connect_never_panics k.conn t0 hf) (fun _ _ => by simp)
      (Option.some.inj h)
  · rw [hrun]
    -- `connect` succeeded, so the packet size was accepted
    have hsz : k.conn.packetSize ≤ 1024 := Nat.le_of_not_lt fun h => by
      rw [Channel.connect_size_guard k.conn t0 h] at hcn
      cases hcn
    obtain ⟨ch, hcn', hinv, -, -, -, hcfg⟩ := Channel.connect_ok k.conn t0 hsz hf
    cases hcn.symm.trans hcn'
    have haddr : st0.chan.cfg.AddrOk := by
      rw [hcfg]
      unfold Wire.ChanCfg.AddrOk
      simp only [Chan.isV6]
      rcases hk.src_len with h | h <;> simp [h, hk.dst_len]
    have hcompat : C02.Compat st0.chan.cfg k.strat := by
      rw [hcfg]
      exact ⟨hk.v6, hk.proto, hk.initial, hk.target⟩
    have hgood : Good k.strat st0 :=
      ⟨hts ▸ Reach.init t0, ⟨hinv, hcompat, haddr⟩, k.agg, [], by simp, hnew ▸ rfl⟩
    refine loop_never_panics hk.cfg hk.mach hk.ttls hk.inflight envs st0 hgood ?_
    intro e he (hv : st0.chan.cfg.v6 = true)
    rw [hcfg] at hv
    exact henv e he hv

/-- `TracerCfgOk` is satisfiable -/
def sampleTracerCfg : TracerCfg :=
  { strat := { v6 := false, target := 167772167, proto := .icmp, traceId := 4660, maxRounds := some 3,
               firstTtl := 1, maxTtl := 30, grace := 100, maxInflight := 24, initialSeq := 33434,
               strat := .classic, portDir := .none, minRound := 1000, maxRound := 1000 },
    conn := { src := [10, 0, 0, 1], dst := [10, 0, 0, 7], packetSize := 84, pattern := 0, privileged := true,
              tos := 0, proto := .icmp, extEnabled := true, initialSeq := 33434, readTimeout := 10, tcpTimeout := 1000 },
    agg := { maxSamples := 256, maxFlows := 64 } }

example : TracerCfgOk sampleTracerCfg :=
  ⟨by simp [CfgOk, sampleTracerCfg, Consts.core_MAX_TTL, Consts.core_MAX_INITIAL_SEQUENCE], by simp [CfgMach, sampleTracerCfg],
   by decide, by decide, .inl rfl, rfl, rfl, rfl, rfl, by decide⟩

/-- **`Tracer::clear` keeps the invariant**: the cleared state is a fresh aggregation (of no rounds),
the tracing state and the channel are as they were, and no error is recorded any more — so every
theorem above holds again for the run that continues after a clear. -/
theorem clear_good {F : Type} [Agg.Num F] {c : Cfg} (acfg : Agg.Cfg) {st : St F} (hg : Good c st) :
    Good c (Stack.clear acfg st) ∧ (Stack.clear acfg st).ts = st.ts ∧ (Stack.clear acfg st).chan = st.chan ∧
    (Stack.clear acfg st).error = none ∧ (Stack.clear acfg st).agg = Agg.State.new acfg :=
  ⟨⟨hg.reach, hg.chan, acfg, [], by simp, rfl⟩, rfl, rfl, rfl, rfl⟩

/-- what of an iteration's result concerns the trace: tracing state, `State`, channel, the call log and
the published round (the response `recv_probe` happened to return is not part of it) -/
def Essence {F : Type} (x : R (St F × Out)) : R (TS × Agg.State F × Chan.Chan × List (Probe × SendOutcome) × Option Round) :=
  match x with
  | .ok (st', o) => .ok (st'.ts, st'.agg, st'.chan, o.sent, o.published)
  | .err e => .err e
  | .panic => .panic

/-- **A datagram that is not a genuine answer is noise (C03 for the stack).**  ICMP or UDP trace; the
receive socket delivers `bytes`, which the family's receive code decodes to a response `w` — or to
nothing — and `w` is not *genuine* for the state after the send step (it fails `validate`, carries a
foreign trace identifier, names a sequence outside the round's window, a slot that is not awaited, or
a probe of an earlier round: `C03.duplicate_rejected`, `never_sent_rejected`, `stale_probe_rejected`,
`foreign_trace_id_rejected`, `invalid_tuple_rejected`, `sibling_response_rejected`).  Then the iteration
ends exactly as if the socket had not been readable at all: same tracing state, same `State`, same
channel, same published round. -/
theorem nongenuine_datagram_is_noise {F : Type} [Agg.Num F] {c : Cfg} (hc : CfgOk c) {st : St F}
    (hs : Reach c st.ts) (e : Env) (hp : st.chan.cfg.proto ≠ .tcp)
    (hrd : e.recv.readable = .yes) (src bytes : Buf) (hdg : e.recv.dgram = .data src bytes)
    (w : Option Wire.WResp)
    (hw : Wire.recvIcmp st.chan.cfg (bytes.take 1024) src = .ok w)
    (hng : ∀ ch ts1 sent calls x, sendRequestS c st.chan st.ts e.injs = .ok (ch, ts1, sent, calls) →
      w = some x → genuine c ts1 (x.toStrat (st.chan.now + e.dt)) = none) :
    Essence (Stack.iter c st e) =
      Essence (Stack.iter c st { e with recv := { e.recv with readable := .no } }) := by
  have hi := reach_inv hc hs
  unfold Stack.iter
  cases hsend : sendRequestS c st.chan st.ts e.injs with
  | panic => simp only [R.bind_panic]
  | err er => simp only [R.bind_err]
  | ok r =>
    obtain ⟨ch, ts1, sent, calls⟩ := r
    obtain ⟨hsr, hsame⟩ := sendRequestS_ok hsend
    have hi1 : Inv c ts1 := (sendRequest_frame hc hi hsr).1
    have hcfg := hsame.advance_cfg e.dt
    have hnow : (Chan.advance ch e.dt).now = st.chan.now + e.dt := congrArg (· + e.dt) hsame.now
    have h1 : Chan.recvIcmpPart (Chan.advance ch e.dt) e.recv = .ok w := by
      rw [Chan.recvIcmpPart_data _ hrd hdg, hcfg]
      exact hw
    have h2 : Chan.recvIcmpPart (Chan.advance ch e.dt) { e.recv with readable := .no } = .ok none := rfl
    simp only [R.bind_ok, Chan.recv_nontcp _ _ (hcfg ▸ hp), h1, h2, hnow]
    cases w with
    | none => rfl
    | some x =>
      -- the response is dropped by the strategy: both iterations go on from `tick ts1 e.dt`, and
      -- their outputs differ in `recv` alone
      have hg := hng ch ts1 sent calls x hsend rfl
      simp only [recvOutcome, R.bind_ok, recvResponse_eq hi1, afterRecv, hg, reduceCtorEq, if_false]
      rcases updateRound c (tick ts1 e.dt) with ⟨ts, _ | rd⟩ | _ | _
      · rfl
      · simp only [R.bind_ok]
        cases st.agg.updateFromRound rd <;> rfl
      · rfl
      · rfl

/-- **A quotation of somebody else's datagram is noise** (`nongenuine_datagram_is_noise` ∘ `C02.foreign_v4`):
UDP trace over IPv4; a router's Time Exceeded / Destination Unreachable quoting *any* IPv4 datagram
that goes to another destination or carries another fixed port (a sibling tracer's probe, another
program's traffic).  Whatever the receive code makes of it, the iteration ends as if nothing had been
readable. -/
theorem foreign_quotation_is_noise {F : Type} [Agg.Num F] {c : Cfg} (hc : CfgOk c) {st : St F}
    (hs : Reach c st.ts) (e : Env) (hcs : C02.Compat st.chan.cfg c) (haddr : st.chan.cfg.AddrOk)
    (hv : st.chan.cfg.v6 = false) (hp : st.chan.cfg.proto = .udp)
    (m : C02.ErrMsg false) (o : Quote.Outer4) (responder src : Buf) (hr : responder.length = 4)
    (qsrc qdst : Buf) (hqs : qsrc.length = 4) (hqd : qdst.length = 4)
    (d : Buf) (i0 i1 pr a0 a1 a2 a3 a4 a5 a6 a7 : UInt8)
    (hD : Wire.IsDatagram4 qsrc qdst d i0 i1 pr a0 a1 a2 a3 a4 a5 a6 a7) (mu : Quote.Mut4) (n : Nat)
    (hb : Wire.BodyOk false (Quote.quote4 mu d n) m.b)
    (hforeign : C02.Foreign st.chan.cfg c qdst (Wire.beN a0 a1) (Wire.beN a2 a3))
    (hfit : (Quote.deliver st.chan.cfg o responder
        (Quote.icmpMessage false m.h m.b (Quote.quote4 mu d n))).length ≤ 1024)
    (hrd : e.recv.readable = .yes)
    (hdg : e.recv.dgram = .data src (Quote.deliver st.chan.cfg o responder
        (Quote.icmpMessage false m.h m.b (Quote.quote4 mu d n))))
    (w : Option Wire.WResp)
    (hw : Wire.recvIcmp st.chan.cfg (Quote.deliver st.chan.cfg o responder
        (Quote.icmpMessage false m.h m.b (Quote.quote4 mu d n))) src = .ok w) :
    Essence (Stack.iter c st e) =
      Essence (Stack.iter c st { e with recv := { e.recv with readable := .no } }) := by
  refine nongenuine_datagram_is_noise (F := F) hc hs e (by rw [hp]; simp) hrd src _ hdg w
    (by rw [List.take_of_length_le hfit]; exact hw) ?_
  intro ch ts1 sent calls x _ hx
  subst hx
  have hval := (C02.foreign_v4 st.chan.cfg c hcs haddr hv m o responder src hr qsrc qdst hqs hqd
    d i0 i1 pr a0 a1 a2 a3 a4 a5 a6 a7 hD mu n hb).2 (by rw [hp]; simp) hforeign x hw (st.chan.now + e.dt)
  unfold genuine
  simp [hval]

end TV.Props.Stack

#print axioms TV.Props.Stack.iter_refines
#print axioms TV.Props.Stack.loop_refines
#print axioms TV.Props.Stack.loop_rounds_wf
#print axioms TV.Props.Stack.stack_state_is_aggregation
#print axioms TV.Props.Stack.loop_error_recorded
#print axioms TV.Props.Stack.loop_no_error
#print axioms TV.Props.Stack.response_completes_probe
#print axioms TV.Props.Stack.datagram_completes_probe
#print axioms TV.Props.Stack.handshake_completes_probe
#print axioms TV.Props.Stack.socket_to_round
#print axioms TV.Props.Stack.icmp_v4_end_to_end
#print axioms TV.Props.Stack.udp_v4_end_to_end
#print axioms TV.Props.Stack.icmp_v6_end_to_end
#print axioms TV.Props.Stack.echo_reply_end_to_end
#print axioms TV.Props.Stack.sendRequestS_no_panic
#print axioms TV.Props.Stack.iter_never_panics
#print axioms TV.Props.Stack.loop_never_panics
#print axioms TV.Props.Stack.run_never_panics
#print axioms TV.Props.Stack.clear_good
#print axioms TV.Props.Stack.nongenuine_datagram_is_noise
#print axioms TV.Props.Stack.foreign_quotation_is_noise
