import TrippyVerif.Model.Builder
import TrippyVerif.Props.C09
/-!
# C16 — option precedence is CLI over file over default; accepted configurations can run

## Part A (precedence)

`TV.CfgGen.cfg_layer`, `cfg_layer_opt`, `cfg_layer_bool_flag` and the tables `rows`, `argsUses`,
`fileUses`, `derived`, `defaultConsts`, `sectionDefaults`, `helpDefaults` are GENERATED from
`/repo/crates/trippy-tui/src/config.rs` (+ `config/{cmd,file,constants}.rs`, core `config.rs`) by
`tools/rs2lean/cfglayer.py` on every run.  The theorems below are about those generated objects:

* the three layering functions return the command-line value if given, else the file value if given,
  else the default (`layer_*`, `layer_opt_*`, `flag_*`);
* every option of `build_config` is wired as `kind(args.<opt>, cfg_file_<section>.<opt>, DEFAULT)`
  with the CLI field and the file field of THE SAME option (rename map: the identity on option
  names; only the result field of `source_address` is spelt `source_addr`), in the
  section and with the `DEFAULT_*` constant listed in the hand-written table `spec` below
  (`wiring_matches_spec`), that constant being the one whose doc comment says "The default value for
  `<opt>`" (`default_const_documents_option`);
* independence (syntactic): each option's CLI field and file field occur exactly once in the whole of
  `build_config` — inside that option's own layering call (`cli_input_used_once`,
  `file_input_used_once`, `file_reads_are_layered`), no two rows share an input or a result field;
* an absent `[section]` of the file (`unwrap_or_default()`) contributes `None` or the same `DEFAULT_*`
  constant (`absent_section_is_default`).

Derived values that are NOT plain layered options (pinned by `derived_values`, hand-modelled in
`Model/Builder.lean` where small): `protocol` (`--udp`, `--tcp`, `--icmp` override the layered option),
`addr_family` (`--ipv4`, `--ipv6` override), `multipath_strategy`, `dns_resolve_method`,
`icmp_extension_parse_mode`, `privilege_mode` (enum conversions of one layered option),
`port_direction` (protocol, source-port, target-port, multipath-strategy, pid), `max_rounds` (mode,
report-cycles), `tui_max_addrs` (`Some(0)` ↦ `None`), `tui_custom_columns`, `tui_timezone` (parsed),
`tui_theme`, `tui_bindings` (item-wise merge of CLI list and file section), `targets`, `verbose`
(CLI only).

## Part B (validity ⇒ runnable)

`TV.Builder.build` is the hand model of `Builder::build` (correspondence-checked against the real
builder over the full parameter product by `tvh config`).  `build_ok_iff`: the builder accepts
exactly `Strat.CfgOk` (the hypothesis of every strategy theorem) together with `SrcFamilyOk` (a given
source address is of the target's address family — the channel's `unreachable!()` otherwise;
`source_family_mismatch_rejected`); hence (`accepted_config_never_panics`, citing
`C09.run_never_panics`) a builder-accepted configuration never panics in any environment, and
(`cli_accepted_runs`) every configuration the command-line layer accepts is either rejected by the
builder with a configuration error before tracing starts (only `initial_sequence > 64511` and a
`--source-address` of the other family than the resolved target, neither of which the command-line
layer validates: `cli_initial_sequence_gap`, `cli_source_family_gap`) or runs without panicking.

## Part C (after `end TV.Props.C16`, under full names)

The other validators of the command line: several targets only for ICMP, privilege mode, timing ranges, flow modes; the
documented values of the defaults.

`decide +kernel` wherever strings are compared: the elaborator's own evaluation costs twice the kernel's, which follows
anyway.  `List.map_inj_left.1 rfl` is `∀ r ∈ l, f r = g r` from `l.map f = l.map g` by evaluation.
-/
namespace TV.Props.C16
open TV.CfgGen

/-! ## A.1 the layering functions -/

theorem layer_cli {α : Type} (c : α) (f : Option α) (d : α) : cfg_layer (some c) f d = c := by
  cases f <;> rfl
theorem layer_file {α : Type} (f d : α) : cfg_layer none (some f) d = f := rfl
theorem layer_default {α : Type} (d : α) : cfg_layer none none d = d := rfl

theorem layer_eq {α : Type} (c f : Option α) (d : α) : cfg_layer c f d = c.getD (f.getD d) := by
  cases c <;> cases f <;> rfl

theorem layer_opt_cli {α : Type} (c : α) (f : Option α) : cfg_layer_opt (some c) f = some c := by
  cases f <;> rfl
theorem layer_opt_file {α : Type} (f : α) : cfg_layer_opt none (some f) = some f := rfl
theorem layer_opt_default {α : Type} : cfg_layer_opt (none : Option α) none = none := rfl

theorem layer_opt_eq {α : Type} (c f : Option α) : cfg_layer_opt c f = c.orElse (fun _ => f) := by
  cases c <;> cases f <;> rfl

theorem flag_cli (f : Option Bool) (d : Bool) : cfg_layer_bool_flag true f d = true := rfl
theorem flag_file (f d : Bool) : cfg_layer_bool_flag false (some f) d = f := rfl
theorem flag_default (d : Bool) : cfg_layer_bool_flag false none d = d := rfl

/-- a command-line flag can only be given (`true`) or absent (`false`): it is the layering function of
the option `if flag then some true else none` -/
theorem flag_eq (c : Bool) (f : Option Bool) (d : Bool) :
    cfg_layer_bool_flag c f d = cfg_layer (if c then some true else none) f d := by
  cases c <;> cases f <;> rfl

/-- the result depends on nothing but the option's own three inputs (the functions are pure: this is
the semantic half of "independently of all other options"; the syntactic half is A.3) -/
theorem layer_congr {α : Type} {c c' f f' : Option α} {d d' : α} (hc : c = c') (hf : f = f') (hd : d = d') :
    cfg_layer c f d = cfg_layer c' f' d' := by subst hc hf hd; rfl

/-! ## A.2 the wiring table against the hand-written specification -/

/-- hand-written: option (its name on the command line, in the file and in the documentation, with
`-` written `_`), kind of layering, section of the configuration file, documented default constant
("" = no default: the option stays unset) -/
structure Spec where
  opt : String
  kind : String
  sect : String
  dflt : String
  deriving DecidableEq, Repr

def L := "cfg_layer"
def O := "cfg_layer_opt"
def F := "cfg_layer_bool_flag"

def spec : List Spec := [
  ⟨"mode", L, "trippy", "constants::DEFAULT_MODE"⟩,
  ⟨"unprivileged", F, "trippy", "defaults::DEFAULT_PRIVILEGE_MODE"⟩,
  ⟨"dns_resolve_all", F, "dns", "constants::DEFAULT_DNS_RESOLVE_ALL"⟩,
  ⟨"log_format", L, "trippy", "constants::DEFAULT_LOG_FORMAT"⟩,
  ⟨"log_filter", L, "trippy", "constants::DEFAULT_LOG_FILTER"⟩,
  ⟨"log_span_events", L, "trippy", "constants::DEFAULT_LOG_SPAN_EVENTS"⟩,
  ⟨"protocol", L, "strategy", "defaults::DEFAULT_STRATEGY_PROTOCOL"⟩,
  ⟨"addr_family", L, "strategy", "constants::DEFAULT_ADDR_FAMILY"⟩,
  ⟨"target_port", O, "strategy", ""⟩,
  ⟨"source_port", O, "strategy", ""⟩,
  ⟨"source_address", O, "strategy", ""⟩,
  ⟨"interface", O, "strategy", ""⟩,
  ⟨"min_round_duration", L, "strategy", "defaults::DEFAULT_STRATEGY_MIN_ROUND_DURATION"⟩,
  ⟨"max_round_duration", L, "strategy", "defaults::DEFAULT_STRATEGY_MAX_ROUND_DURATION"⟩,
  ⟨"initial_sequence", L, "strategy", "defaults::DEFAULT_STRATEGY_INITIAL_SEQUENCE"⟩,
  ⟨"multipath_strategy", L, "strategy", "defaults::DEFAULT_STRATEGY_MULTIPATH"⟩,
  ⟨"grace_duration", L, "strategy", "defaults::DEFAULT_STRATEGY_GRACE_DURATION"⟩,
  ⟨"max_inflight", L, "strategy", "defaults::DEFAULT_STRATEGY_MAX_INFLIGHT"⟩,
  ⟨"first_ttl", L, "strategy", "defaults::DEFAULT_STRATEGY_FIRST_TTL"⟩,
  ⟨"max_ttl", L, "strategy", "defaults::DEFAULT_STRATEGY_MAX_TTL"⟩,
  ⟨"packet_size", L, "strategy", "defaults::DEFAULT_STRATEGY_PACKET_SIZE"⟩,
  ⟨"payload_pattern", L, "strategy", "defaults::DEFAULT_STRATEGY_PAYLOAD_PATTERN"⟩,
  ⟨"tos", L, "strategy", "defaults::DEFAULT_STRATEGY_TOS"⟩,
  ⟨"icmp_extensions", F, "strategy", "defaults::DEFAULT_ICMP_EXTENSION_PARSE_MODE"⟩,
  ⟨"read_timeout", L, "strategy", "defaults::DEFAULT_STRATEGY_READ_TIMEOUT"⟩,
  ⟨"max_samples", L, "strategy", "defaults::DEFAULT_MAX_SAMPLES"⟩,
  ⟨"max_flows", L, "strategy", "defaults::DEFAULT_MAX_FLOWS"⟩,
  ⟨"tui_preserve_screen", F, "tui", "constants::DEFAULT_TUI_PRESERVE_SCREEN"⟩,
  ⟨"tui_refresh_rate", L, "tui", "constants::DEFAULT_TUI_REFRESH_RATE"⟩,
  ⟨"tui_privacy_max_ttl", O, "tui", ""⟩,
  ⟨"tui_address_mode", L, "tui", "constants::DEFAULT_TUI_ADDRESS_MODE"⟩,
  ⟨"tui_as_mode", L, "tui", "constants::DEFAULT_TUI_AS_MODE"⟩,
  ⟨"tui_custom_columns", L, "tui", "constants::DEFAULT_CUSTOM_COLUMNS"⟩,
  ⟨"tui_icmp_extension_mode", L, "tui", "constants::DEFAULT_TUI_ICMP_EXTENSION_MODE"⟩,
  ⟨"tui_geoip_mode", L, "tui", "constants::DEFAULT_TUI_GEOIP_MODE"⟩,
  ⟨"tui_max_addrs", O, "tui", ""⟩,
  ⟨"dns_resolve_method", L, "dns", "constants::DEFAULT_DNS_RESOLVE_METHOD"⟩,
  ⟨"tui_locale", O, "tui", ""⟩,
  ⟨"tui_timezone", O, "tui", ""⟩,
  ⟨"dns_lookup_as_info", F, "dns", "constants::DEFAULT_DNS_LOOKUP_AS_INFO"⟩,
  ⟨"dns_timeout", L, "dns", "constants::DEFAULT_DNS_TIMEOUT"⟩,
  ⟨"dns_ttl", L, "dns", "constants::DEFAULT_DNS_TTL"⟩,
  ⟨"report_cycles", L, "report", "constants::DEFAULT_REPORT_CYCLES"⟩,
  ⟨"geoip_mmdb_file", O, "tui", ""⟩]

/-- the field of the configuration-file section has the name of the command-line field of `Args`, for every option -/
def fileFieldOf (opt : String) : String := opt
/-- the field of `TrippyConfig` an option is moved to unchanged -/
def resultFieldOf (opt : String) : String := if opt = "source_address" then "source_addr" else opt

/-- every row reads `args.<opt>` and `cfg_file_<section>.<opt>` of the same option, with the layering
function, section and default constant of the specification, in the order of the specification -/
theorem wiring_matches_spec :
    rows.map (fun r => (r.cli, r.kind, r.sect, r.file, r.defaultConst)) =
    spec.map (fun s => (s.opt, s.kind, s.sect, fileFieldOf s.opt, s.dflt)) := rfl

theorem cli_and_file_same_option : ∀ r ∈ rows, r.file = fileFieldOf r.cli := List.map_inj_left.1 rfl

theorem default_iff_not_opt : ∀ r ∈ rows, (r.defaultConst = "" ↔ r.kind = O) := by decide +kernel

/-- the default named by a row is the constant documented (in its doc comment, in the code base) as
"The default value for `<that option>`" -/
theorem default_const_documents_option :
    ∀ r ∈ rows, r.defaultConst = "" ∨
      (r.defaultConst, r.cli) ∈ defaultConsts.map (fun c => (c.1, c.2.1)) := by decide +kernel

/-- each documented constant documents one option -/
theorem default_consts_nodup : (defaultConsts.map (·.1)).Nodup := by decide +kernel

/-- a layered variable that is moved unchanged into the result goes to the field of its own option -/
theorem direct_move_same_option : ∀ r ∈ rows, r.field = "" ∨ r.field = resultFieldOf r.cli := by decide +kernel

/-! ## A.3 independence (syntactic) -/

theorem options_distinct : (rows.map (·.cli)).Nodup := by decide +kernel
theorem variables_distinct : (rows.map (·.var)).Nodup := by decide +kernel

/-- the configuration-file fields `build_config` reads are the file inputs of the rows, each once -/
theorem file_keys :
    (fileUses.map fun u => (u.1, u.2.1)).Nodup ∧
    (rows.map fun r => (r.sect, r.file)).Perm (fileUses.map fun u => (u.1, u.2.1)) := by decide +kernel

theorem file_inputs_distinct : (rows.map (fun r => (r.sect, r.file))).Nodup :=
  file_keys.2.nodup_iff.2 file_keys.1

/-- `args.<opt>` occurs exactly once in `build_config`: as the first argument of its own row -/
theorem cli_input_used_once : ∀ r ∈ rows, (r.cli, 1) ∈ argsUses := by decide +kernel

/-- `cfg_file_<section>.<opt>` occurs exactly once in `build_config`: in its own row -/
theorem file_input_used_once : ∀ r ∈ rows, (r.sect, r.file, 1) ∈ fileUses := by
  -- by `file_keys` the row's key is that of some `u ∈ fileUses`, where every count is 1 (a sweep costs ten times this)
  intro r hr
  obtain ⟨u, hu, h⟩ := List.mem_map.1 (file_keys.2.mem_iff.1 (List.mem_map_of_mem hr))
  have h1 : ∀ u ∈ fileUses, u.2.2 = 1 := List.map_inj_left.1 rfl
  rw [← h1 u hu, ← (Prod.mk.inj h).1, ← (Prod.mk.inj h).2]
  exact hu

theorem args_uses_nodup : (argsUses.map (·.1)).Nodup := by decide +kernel
theorem file_uses_nodup : (fileUses.map (fun u => (u.1, u.2.1))).Nodup := file_keys.1

/-- every read of a configuration-file field in `build_config` is the file input of a row: the file
never bypasses the layering -/
theorem file_reads_are_layered :
    ∀ u ∈ fileUses, (u.1, u.2.1) ∈ rows.map (fun r => (r.sect, r.file)) :=
  fun _ hu => file_keys.2.mem_iff.2 (List.mem_map_of_mem hu)

/-- the command-line fields read outside the layering rows (no file counterpart, except the protocol
and address-family shortcuts which override the layered option, and the theme/binding lists which
are merged item-wise with their file sections) -/
theorem non_layered_cli_fields :
    (argsUses.map (·.1)).filter (fun a => !(rows.map (·.cli)).contains a) =
      ["icmp", "ipv4", "ipv6", "targets", "tcp", "tui_key_bindings", "tui_theme_colors", "udp", "verbose"] := by
  decide +kernel

/-- the fields of the result that are not an unchanged layered value, with everything they depend on -/
theorem derived_values : derived =
    [("targets", ["args.targets"]),
     ("protocol", ["args.icmp", "args.tcp", "args.udp", "row:protocol"]),
     ("addr_family", ["args.ipv4", "args.ipv6", "row:addr_family", "row:multipath_strategy"]),
     ("multipath_strategy", ["row:multipath_strategy"]),
     ("icmp_extension_parse_mode", ["row:icmp_extensions"]),
     ("port_direction", ["args.icmp", "args.tcp", "args.udp", "param:pid", "row:multipath_strategy",
                         "row:protocol", "row:source_port", "row:target_port"]),
     ("dns_resolve_method", ["row:dns_resolve_method"]),
     ("tui_custom_columns", ["row:tui_custom_columns"]),
     ("tui_max_addrs", ["row:tui_max_addrs"]),
     ("tui_timezone", ["row:tui_timezone"]),
     ("tui_theme", ["args.tui_theme_colors", "section:theme_colors"]),
     ("tui_bindings", ["args.tui_key_bindings", "section:bindings"]),
     ("privilege_mode", ["row:unprivileged"]),
     ("max_rounds", ["row:mode", "row:report_cycles"]),
     ("verbose", ["args.verbose"])] := rfl

/-- every field of the result is written once: by a direct move or as a derived value (`TrippyConfig` has 48 fields) -/
theorem result_fields_distinct :
    (((rows.map (·.field)).filter (· ≠ "")) ++ derived.map (·.1)).Nodup ∧
    (((rows.map (·.field)).filter (· ≠ "")) ++ derived.map (·.1)).length = 48 := by decide +kernel

/-- every layered option reaches the result: directly, or through a derived value -/
theorem every_option_reaches_result :
    ∀ r ∈ rows, r.field ≠ "" ∨ ("row:" ++ r.cli) ∈ (derived.map (·.2)).flatten := by decide +kernel

/-- an absent `[section]` is replaced by `Config<Section>::default()`: every field of it that a row
reads is `None` or `Some(<the row's own DEFAULT constant>)`, except `tui-max-addrs` whose section
default `Some(DEFAULT_TUI_MAX_ADDRS)` = `Some(0)` is mapped back to `None` by the derived value -/
theorem absent_section_is_default :
    ∀ r ∈ rows, (r.sect, r.file, "") ∈ sectionDefaults ∨ (r.sect, r.file, r.defaultConst) ∈ sectionDefaults ∨
      (r.cli = "tui_max_addrs" ∧ (r.sect, r.file, "constants::DEFAULT_TUI_MAX_ADDRS") ∈ sectionDefaults) := by
  decide +kernel

/-- the `[default: ..]` text of the command-line help agrees with the value of the constant for every
layered option except `--tui-geoip-mode` (help: `short`, constant: `GeoIpMode::Off`) — a finding -/
theorem help_text_defaults :
    (helpDefaults.filter (fun h => !h.2.2.2)).map (fun h => (h.1, h.2.1, h.2.2.1)) =
      [("tui_geoip_mode", "short", "off")] := rfl

/-! ## A.4 the derived values -/

section A4
open TV.Builder

/-- no shortcut flag: the protocol is the layered `protocol` option -/
theorem protocol_no_flag (a : Cli) (h1 : a.udp = false) (h2 : a.tcp = false) (h3 : a.icmp = false) :
    protocol a = a.protocolOpt := by
  unfold protocol
  rw [h1, h2, h3]
  cases a.protocolOpt <;> rfl

/-- exactly one shortcut flag (clap rejects combinations: `conflicts_with`): it decides the protocol -/
theorem protocol_flag (a : Cli) :
    (a.udp = true → a.tcp = false → a.icmp = false → protocol a = .udp) ∧
    (a.udp = false → a.tcp = true → a.icmp = false → protocol a = .tcp) ∧
    (a.udp = false → a.tcp = false → a.icmp = true → protocol a = .icmp) := by
  refine ⟨?_, ?_, ?_⟩
  all_goals
    intro h1 h2 h3
    unfold protocol
    rw [h1, h2, h3]

theorem addrFamily_no_flag (o : AddrFamily) : addrFamily false false o = o := rfl
theorem addrFamily_flags (o : AddrFamily) :
    addrFamily true false o = .ipv4 ∧ addrFamily false true o = .ipv6 := ⟨rfl, rfl⟩

theorem privilegeMode_eq (c : Bool) (f : Option Bool) (d : Bool) :
    privilegeMode c f d = cfg_layer_bool_flag c f d := by
  unfold privilegeMode
  cases cfg_layer_bool_flag c f d <;> rfl

theorem maxRounds_eq (m : ModeKind) (n : Nat) :
    maxRounds m n = (match m with | .interactive => none | .report => some n) := by cases m <;> rfl

theorem tuiMaxAddrs_eq (x : Option Nat) : tuiMaxAddrs x = x.filter (· > 0) := by
  cases x with
  | none => rfl
  | some n => by_cases h : n > 0 <;> simp [tuiMaxAddrs, Option.filter, h]

end A4

/-! ## B validity ⇒ runnable -/

section B
open TV.Builder TV.Strat

/-- a source address, when given, is of the same address family as the target -/
def SrcFamilyOk (b : Params) : Prop := b.srcV6 = none ∨ b.srcV6 = some b.v6

instance (b : Params) : Decidable (SrcFamilyOk b) := by unfold SrcFamilyOk; infer_instance

theorem srcFamilyRejected_iff (b : Params) : srcFamilyRejected b = false ↔ SrcFamilyOk b := by
  unfold srcFamilyRejected SrcFamilyOk
  cases b.srcV6 with
  | none => simp
  | some s => cases s <;> cases b.v6 <;> simp

theorem cfgOk_toCfg (b : Params) : CfgOk (toCfg b) ↔
    1 ≤ b.firstTtl ∧ b.firstTtl ≤ Consts.core_MAX_TTL ∧ b.maxTtl ≤ Consts.core_MAX_TTL ∧
    b.initialSeq ≤ Consts.core_MAX_INITIAL_SEQUENCE ∧ portDirRejected b = false := by
  simp only [CfgOk, toCfg, portDirRejected]
  cases b.proto <;> cases b.portDir <;> cases b.strat <;> simp

theorem build_eq (b : Params) :
    build b = if CfgOk (toCfg b) ∧ SrcFamilyOk b then .ok (toCfg b) else .err .badConfig := by
  unfold build
  -- all six tests reject; with the last one flipped (`ite_not`) into an accepting test, `fold` makes them one condition
  have fold (p q : Prop) [Decidable p] [Decidable q] (x : R Cfg) :
      (if p then .err .badConfig else if q then x else .err .badConfig) = if ¬p ∧ q then x else .err .badConfig := by
    by_cases hp : p <;> simp [hp]
  rw [← ite_not (p := b.initialSeq > _)]
  simp only [fold]
  refine ite_cond_congr (propext ?_)
  rw [cfgOk_toCfg, ← srcFamilyRejected_iff]
  simp only [Bool.not_eq_true, Nat.not_lt]
  constructor
  · rintro ⟨hp, hs, h1, h2, h3, h4⟩
    exact ⟨⟨h1, h2, h3, h4, hp⟩, hs⟩
  · rintro ⟨⟨h1, h2, h3, h4, hp⟩, hs⟩
    exact ⟨hp, hs, h1, h2, h3, h4⟩

theorem build_never_panics (b : Params) : build b ≠ .panic := by
  rw [build_eq]
  split <;> simp

theorem build_err_is_badConfig (b : Params) (e : Err) (h : build b = .err e) : e = .badConfig := by
  rw [build_eq] at h
  split at h <;> cases h
  rfl

/-- `Builder::build` accepts exactly the configurations satisfying `Strat.CfgOk` whose source address
(if any) is of the target's address family -/
theorem build_ok_iff (b : Params) (c : Cfg) :
    build b = .ok c ↔ (c = toCfg b ∧ CfgOk (toCfg b) ∧ SrcFamilyOk b) := by
  rw [build_eq]
  split <;> simp [*, eq_comm]

/-- soundness: what the builder accepts satisfies the hypothesis of all strategy theorems -/
theorem build_sound {b : Params} {c : Cfg} (h : build b = .ok c) : CfgOk c := by
  obtain ⟨rfl, hc, _⟩ := (build_ok_iff b c).mp h
  exact hc

/-- completeness: every `CfgOk` configuration is accepted by the builder (library users) -/
theorem build_complete {c : Cfg} (h : CfgOk c) : build (paramsOf c) = .ok c :=
  (build_ok_iff (paramsOf c) c).mpr ⟨rfl, h, .inl rfl⟩

/-- completeness for arbitrary builder parameters: `CfgOk` and a source address of the right family
(or none) are all the builder asks for -/
theorem build_complete' {b : Params} (h : CfgOk (toCfg b)) (hs : SrcFamilyOk b) : build b = .ok (toCfg b) :=
  (build_ok_iff b (toCfg b)).mpr ⟨rfl, h, hs⟩

theorem build_rejects_iff (b : Params) : build b = .err .badConfig ↔ ¬ (CfgOk (toCfg b) ∧ SrcFamilyOk b) := by
  rw [build_eq]
  split <;> simp [*]

/-- a source address of the other address family than the target (for which `Channel::connect` runs
into `unreachable!()`) is rejected by the builder with a configuration error, whatever the rest -/
theorem source_family_mismatch_rejected (b : Params) (s : Bool) (h : b.srcV6 = some s) (hne : s ≠ b.v6) :
    build b = .err .badConfig := by
  rw [build_rejects_iff]
  rintro ⟨_, hs⟩
  simp [SrcFamilyOk, h, hne] at hs

/-- a configuration that passes the builder (library users: the builder alone) can execute rounds
against any network without panicking -/
theorem accepted_config_never_panics {b : Params} {c : Cfg} (h : build b = .ok c) (es : List IterEnv) (t0 : Nat) :
    (run c (init c t0) es).ended ≠ some .panic :=
  C09.run_never_panics (build_sound h) es (Reach.init t0)

/-- the unsupported combinations (the `unimplemented!()` branches of `probe_data`, the `ttl - 1`
underflow for `first_ttl = 0`) are all outside what the builder accepts: concretely -/
theorem unsupported_rejected (b : Params) :
    ((b.proto = .udp ∨ b.proto = .tcp) → b.portDir = .none → build b = .err .badConfig) ∧
    (b.proto = .tcp → (∃ s d, b.portDir = .fixedBoth s d) → build b = .err .badConfig) ∧
    (b.proto = .udp → b.strat = .classic → (∃ s d, b.portDir = .fixedBoth s d) → build b = .err .badConfig) ∧
    (b.firstTtl = 0 → build b = .err .badConfig) := by
  simp only [build_rejects_iff, cfgOk_toCfg]
  refine ⟨?_, ?_, ?_, ?_⟩
  · rintro (h | h) hp <;> simp [portDirRejected, h, hp]
  · rintro h ⟨s, d, hp⟩
    simp [portDirRejected, h, hp]
  · rintro h hs ⟨s, d, hp⟩
    simp [portDirRejected, h, hp, hs]
  · intro h
    simp [h]

theorem validateTtl_ok {f m : Nat} (h : validateTtl f m = .ok ()) :
    1 ≤ f ∧ f ≤ Consts.core_MAX_TTL ∧ 1 ≤ m ∧ m ≤ Consts.core_MAX_TTL ∧ f ≤ m := by
  unfold validateTtl at h
  split at h
  · cases h
  split at h
  · cases h
  split at h
  · cases h
  omega

theorem validateProtocolStrategy_ok {p : Proto} {s : MStrat} (h : validateProtocolStrategy p s = .ok ()) :
    p = .udp ∨ s = .classic := by
  cases p <;> cases s
  case icmp.paris | icmp.dublin | tcp.paris | tcp.dublin => cases h
  all_goals simp

theorem portDirection_ok {a : Cli} {pd : PortDir} (h : portDirection a = .ok pd) :
    portDirRejected (toBuilder a) = false := by
  simp only [portDirRejected, toBuilder, h]
  unfold portDirection at h
  -- 36 cases: `h` is refuted (a rejecting arm) or fixes `pd`, of which `portDirRejected` is `false`
  cases hp : protocol a <;> cases hs : a.sourcePort <;> cases ht : a.targetPort <;> cases hm : a.strat
  all_goals simp [hp, hs, ht, hm, R.bind_eq_ok, @eq_comm _ _ pd] at h
  all_goals simp [h]

/-- what the command-line layer guarantees about the parameters it hands to the builder -/
theorem cliConfig_ok {a : Cli} {p : Params} (h : cliConfig a = .ok p) :
    p = toBuilder a ∧ 1 ≤ p.firstTtl ∧ p.firstTtl ≤ p.maxTtl ∧ p.maxTtl ≤ Consts.core_MAX_TTL ∧
    portDirRejected p = false := by
  simp only [cliConfig, R.bind_eq_ok] at h
  -- one pair per validator of `cliConfig`, in its order: the port direction first, the TTLs fourth of six
  obtain ⟨pd, hpd, _, _, _, _, _, httl, _, _, _, _, h⟩ := h
  obtain ⟨t1, _, _, t4, t5⟩ := validateTtl_ok httl
  cases h
  exact ⟨by simp [toBuilder, hpd], t1, t5, t4, by simpa [toBuilder, hpd] using portDirection_ok hpd⟩

/-- every configuration the command-line layer accepts is accepted by the builder, provided the
initial sequence is within the builder's bound and the `--source-address` (if any) is of the family
of the resolved target (neither of which the command-line layer checks) -/
theorem cli_accepted_builder_accepts {a : Cli} (h : cliAccepts a)
    (hseq : a.initialSeq ≤ Consts.core_MAX_INITIAL_SEQUENCE)
    (hsrc : a.srcV6 = none ∨ a.srcV6 = some a.v6) : ∃ c, build (toBuilder a) = .ok c := by
  obtain ⟨p, hp⟩ := h
  obtain ⟨rfl, h1, h2, h3, h4⟩ := cliConfig_ok hp
  exact ⟨_, build_complete' ((cfgOk_toCfg _).2 ⟨h1, by omega, h3, hseq, h4⟩) hsrc⟩

def gapExample : Cli :=
  { udp := false, tcp := false, icmp := false, protocolOpt := .icmp, strat := .classic, unprivileged := false,
    sourcePort := none, targetPort := none, firstTtl := 1, maxTtl := 64, maxInflight := 24, packetSize := 84,
    family := .other, initialSeq := 65000, pid := 4242, v6 := false, target := 7, srcV6 := none, traceId := 4242,
    maxRounds := none, grace := 100000000, minRound := 1000000000, maxRound := 1000000000 }

/-- the gap: `--initial-sequence 65000` passes every command-line check and is then rejected by the
builder — still a configuration error before tracing starts, not a crash -/
theorem cli_initial_sequence_gap :
    cliAccepts gapExample ∧ build (toBuilder gapExample) = .err .badConfig :=
  ⟨⟨toBuilder gapExample, by decide⟩, rfl⟩

def srcGapExample : Cli := { gapExample with initialSeq := 33434, v6 := true, srcV6 := some false }

/-- the second gap: `trip ::1 --source-address 127.0.0.1` passes every command-line check (the target
is only resolved afterwards) and is then rejected by the builder — again a configuration error before
tracing starts (before the repair of `Builder::build` this reached `unreachable!()` in
`Channel::connect`) -/
theorem cli_source_family_gap :
    cliAccepts srcGapExample ∧ build (toBuilder srcGapExample) = .err .badConfig :=
  ⟨⟨toBuilder srcGapExample, by decide⟩, rfl⟩

/-- C16, command-line users: a configuration accepted by the command-line layer is either rejected
by the tracer builder with a configuration error (before any probe is sent) or runs against any
network without panicking -/
theorem cli_accepted_runs {a : Cli} (_h : cliAccepts a) :
    build (toBuilder a) = .err .badConfig ∨
    ∃ c, build (toBuilder a) = .ok c ∧ ∀ (es : List IterEnv) (t0 : Nat), (run c (init c t0) es).ended ≠ some .panic := by
  cases hb : build (toBuilder a) with
  | ok c => exact .inr ⟨c, rfl, fun es t0 => accepted_config_never_panics hb es t0⟩
  | err e => rw [build_err_is_badConfig _ e hb]; exact .inl rfl
  | panic => exact absurd hb (build_never_panics _)

/-- and the builder rejects a command-line-accepted configuration only for one of the two reasons the
command-line layer does not check -/
theorem cli_accepted_rejected_only_for {a : Cli} (h : cliAccepts a) (hb : build (toBuilder a) = .err .badConfig) :
    a.initialSeq > Consts.core_MAX_INITIAL_SEQUENCE ∨ ¬ (a.srcV6 = none ∨ a.srcV6 = some a.v6) := by
  by_cases hseq : a.initialSeq ≤ Consts.core_MAX_INITIAL_SEQUENCE
  · by_cases hsrc : a.srcV6 = none ∨ a.srcV6 = some a.v6
    · obtain ⟨c, hc⟩ := cli_accepted_builder_accepts h hseq hsrc
      rw [hb] at hc
      cases hc
    · exact .inr hsrc
  · exact .inl (by omega)

def icmpParis : Cfg :=
  { v6 := false, target := 7, proto := .icmp, traceId := 0, maxRounds := none, firstTtl := 1, maxTtl := 64,
    grace := 0, maxInflight := 24, initialSeq := 33434, strat := .paris, portDir := .none, minRound := 0,
    maxRound := 0 }

/-- what the command-line layer rejects although the builder (and the strategy) would run it: it is
strictly stricter, e.g. ICMP with the paris strategy, `first_ttl > max_ttl`, `max_ttl = 0` -/
theorem cli_stricter_than_builder :
    ∃ b : Params, (∃ c, build b = .ok c) ∧ validateProtocolStrategy b.proto b.strat = .err .badConfig :=
  ⟨paramsOf icmpParis, ⟨icmpParis, build_complete ⟨by decide, by decide, by decide, by decide, trivial⟩⟩, by decide⟩

end B

end TV.Props.C16

/-- **C03 / C16, several targets.**  UDP and TCP probes carry no trace identifier, so tracers of one
invocation could not tell their answers apart: the command line accepts more than one target (or
`--dns-resolve-all`) only for ICMP, and only in the modes that can show several traces. -/
theorem TV.Props.C16.several_targets_only_for_icmp (mode : TV.Builder.OutMode) (proto : TV.Strat.Proto) (n : Nat) (all : Bool)
    (hs : n > 1 ∨ all = true) :
    TV.Builder.validateMulti mode proto n all = true ↔ proto = TV.Strat.Proto.icmp ∧ mode.singleTrace = false := by
  have hsev : (decide (n > 1) || all) = true := by
    rcases hs with h | h
    · simp [h]
    · simp [h]
  unfold TV.Builder.validateMulti
  cases hm : mode.singleTrace <;> cases proto <;> simp [hsev]

theorem TV.Props.C16.single_target_accepted (mode : TV.Builder.OutMode) (proto : TV.Strat.Proto) :
    TV.Builder.validateMulti mode proto 1 false = true := by
  unfold TV.Builder.validateMulti
  cases mode.singleTrace <;> cases proto <;> simp

/-- **C16, privileges.**  A configuration is accepted exactly when its privilege mode can work here: privileged
mode needs the privileges, unprivileged mode needs a platform with unprivileged ICMP sockets — an unsupported
combination is refused up front, whatever the other component says. -/
theorem TV.Props.C16.privilege_accepted_iff (unprivileged has needs : Bool) :
    TV.Builder.validatePrivilege unprivileged has needs = true ↔
      (unprivileged = false ∧ has = true) ∨ (unprivileged = true ∧ needs = false) := by
  cases unprivileged <;> cases has <;> cases needs <;> simp [TV.Builder.validatePrivilege]

/-- **C16, timing.**  The command line accepts a timing configuration exactly when every duration is inside its documented
range and the round's minimum does not exceed its maximum: read-timeout 10–100 ms, grace 10–1000 ms, refresh 50–1000 ms,
at least one report cycle. -/
theorem TV.Props.C16.timing_accepted_iff (t : TV.Builder.Timing) :
    TV.Builder.validateTiming t = true ↔
      (10000000 ≤ t.readTimeout ∧ t.readTimeout ≤ 100000000) ∧ t.minRound ≤ t.maxRound ∧
      (10000000 ≤ t.grace ∧ t.grace ≤ 1000000000) ∧ (50000000 ≤ t.refresh ∧ t.refresh ≤ 1000000000) ∧ 0 < t.reportCycles := by
  simp only [TV.Builder.validateTiming, Bool.and_eq_true, Bool.not_eq_true', Bool.or_eq_false_iff,
    decide_eq_false_iff_not, beq_eq_false_iff_ne]
  -- the bounds are unfolded once the `decide`s are gone: `simp` does not rewrite inside a `Decidable` instance, so with
  -- the numerals in place `decide_eq_false_iff_not` would no longer match
  simp only [TV.Consts.tuic_MIN_READ_TIMEOUT_MS, TV.Consts.tuic_MAX_READ_TIMEOUT_MS,
    TV.Consts.tuic_MIN_GRACE_DURATION_MS, TV.Consts.tuic_MAX_GRACE_DURATION_MS, TV.Consts.tuic_TUI_MIN_REFRESH_RATE_MS,
    TV.Consts.tuic_TUI_MAX_REFRESH_RATE_MS]
  omega

/-- what an accepted timing configuration gives the tracing loop: the hypotheses the C08 theorems state about the round
durations (`min ≤ max`) and a positive grace period -/
theorem TV.Props.C16.accepted_timing_is_sane (t : TV.Builder.Timing) (h : TV.Builder.validateTiming t = true) :
    t.minRound ≤ t.maxRound ∧ 0 < t.grace ∧ 0 < t.readTimeout ∧ t.readTimeout ≤ t.grace * 10 := by
  have := (TV.Props.C16.timing_accepted_iff t).1 h
  omega

/-- the flows and dot reports are refused exactly for the classic strategy; every other mode takes every strategy -/
theorem TV.Props.C16.flow_modes_need_flows (mode : TV.Builder.OutMode) (s : TV.Strat.MStrat) :
    TV.Builder.validateFlows mode s = false ↔ (mode = .flows ∨ mode = .dot) ∧ s = .classic := by
  cases mode <;> cases s <;> simp [TV.Builder.validateFlows]

/-- **C16, the defaults are the documented ones** (the manual, `trippy-config-sample.toml`, the `Builder` documentation):
first-ttl 1, max-ttl 64, max-inflight 24, packet-size 84, payload-pattern 0, initial-sequence 33434, tos 0,
min- and max-round-duration 1 s, grace-duration 100 ms, read-timeout 10 ms, TCP connect timeout 1 s, 256 samples, 64 flows;
tui-refresh-rate 100 ms, dns-timeout 5 s, dns-ttl 300 s, 10 report cycles.  The constants are regenerated from
`trippy-core/src/config.rs` and `trippy-tui/src/config/constants.rs` on every run. -/
theorem TV.Props.C16.defaults_as_documented :
    TV.Consts.defaults_DEFAULT_STRATEGY_FIRST_TTL = 1 ∧ TV.Consts.defaults_DEFAULT_STRATEGY_MAX_TTL = 64 ∧
    TV.Consts.defaults_DEFAULT_STRATEGY_MAX_INFLIGHT = 24 ∧ TV.Consts.defaults_DEFAULT_STRATEGY_PACKET_SIZE = 84 ∧
    TV.Consts.defaults_DEFAULT_STRATEGY_PAYLOAD_PATTERN = 0 ∧ TV.Consts.defaults_DEFAULT_STRATEGY_INITIAL_SEQUENCE = 33434 ∧
    TV.Consts.defaults_DEFAULT_STRATEGY_TOS = 0 ∧
    TV.Consts.defaults_DEFAULT_STRATEGY_MIN_ROUND_DURATION = 1000000000 ∧ TV.Consts.defaults_DEFAULT_STRATEGY_MAX_ROUND_DURATION = 1000000000 ∧
    TV.Consts.defaults_DEFAULT_STRATEGY_GRACE_DURATION = 100000000 ∧ TV.Consts.defaults_DEFAULT_STRATEGY_READ_TIMEOUT = 10000000 ∧
    TV.Consts.defaults_DEFAULT_STRATEGY_TCP_CONNECT_TIMEOUT = 1000000000 ∧
    TV.Consts.defaults_DEFAULT_MAX_SAMPLES = 256 ∧ TV.Consts.defaults_DEFAULT_MAX_FLOWS = 64 ∧
    TV.Consts.tuic_DEFAULT_TUI_REFRESH_RATE = 100000000 ∧ TV.Consts.tuic_DEFAULT_DNS_TIMEOUT = 5000000000 ∧
    TV.Consts.tuic_DEFAULT_DNS_TTL = 300000000000 ∧ TV.Consts.tuic_DEFAULT_REPORT_CYCLES = 10 := by decide

/-- the default configuration is one the command line's own validators accept -/
theorem TV.Props.C16.default_timing_accepted :
    TV.Builder.validateTiming
      (TV.Builder.Timing.mk TV.Consts.defaults_DEFAULT_STRATEGY_READ_TIMEOUT TV.Consts.defaults_DEFAULT_STRATEGY_MIN_ROUND_DURATION
        TV.Consts.defaults_DEFAULT_STRATEGY_MAX_ROUND_DURATION TV.Consts.defaults_DEFAULT_STRATEGY_GRACE_DURATION
        TV.Consts.tuic_DEFAULT_TUI_REFRESH_RATE TV.Consts.tuic_DEFAULT_REPORT_CYCLES) = true := by decide

#print axioms TV.Props.C16.layer_cli
#print axioms TV.Props.C16.layer_file
#print axioms TV.Props.C16.layer_default
#print axioms TV.Props.C16.layer_eq
#print axioms TV.Props.C16.layer_opt_cli
#print axioms TV.Props.C16.layer_opt_file
#print axioms TV.Props.C16.layer_opt_default
#print axioms TV.Props.C16.layer_opt_eq
#print axioms TV.Props.C16.flag_cli
#print axioms TV.Props.C16.flag_file
#print axioms TV.Props.C16.flag_default
#print axioms TV.Props.C16.flag_eq
#print axioms TV.Props.C16.layer_congr
#print axioms TV.Props.C16.wiring_matches_spec
#print axioms TV.Props.C16.cli_and_file_same_option
#print axioms TV.Props.C16.default_iff_not_opt
#print axioms TV.Props.C16.default_const_documents_option
#print axioms TV.Props.C16.default_consts_nodup
#print axioms TV.Props.C16.direct_move_same_option
#print axioms TV.Props.C16.options_distinct
#print axioms TV.Props.C16.variables_distinct
#print axioms TV.Props.C16.file_inputs_distinct
#print axioms TV.Props.C16.cli_input_used_once
#print axioms TV.Props.C16.file_input_used_once
#print axioms TV.Props.C16.args_uses_nodup
#print axioms TV.Props.C16.file_uses_nodup
#print axioms TV.Props.C16.file_reads_are_layered
#print axioms TV.Props.C16.non_layered_cli_fields
#print axioms TV.Props.C16.derived_values
#print axioms TV.Props.C16.result_fields_distinct
#print axioms TV.Props.C16.every_option_reaches_result
#print axioms TV.Props.C16.absent_section_is_default
#print axioms TV.Props.C16.help_text_defaults
#print axioms TV.Props.C16.protocol_no_flag
#print axioms TV.Props.C16.protocol_flag
#print axioms TV.Props.C16.addrFamily_no_flag
#print axioms TV.Props.C16.addrFamily_flags
#print axioms TV.Props.C16.privilegeMode_eq
#print axioms TV.Props.C16.maxRounds_eq
#print axioms TV.Props.C16.tuiMaxAddrs_eq
#print axioms TV.Props.C16.build_never_panics
#print axioms TV.Props.C16.build_err_is_badConfig
#print axioms TV.Props.C16.build_ok_iff
#print axioms TV.Props.C16.build_sound
#print axioms TV.Props.C16.build_complete
#print axioms TV.Props.C16.build_complete'
#print axioms TV.Props.C16.build_rejects_iff
#print axioms TV.Props.C16.source_family_mismatch_rejected
#print axioms TV.Props.C16.accepted_config_never_panics
#print axioms TV.Props.C16.unsupported_rejected
#print axioms TV.Props.C16.cliConfig_ok
#print axioms TV.Props.C16.cli_accepted_builder_accepts
#print axioms TV.Props.C16.cli_initial_sequence_gap
#print axioms TV.Props.C16.cli_source_family_gap
#print axioms TV.Props.C16.cli_accepted_runs
#print axioms TV.Props.C16.cli_accepted_rejected_only_for
#print axioms TV.Props.C16.cli_stricter_than_builder
#print axioms TV.Props.C16.several_targets_only_for_icmp
#print axioms TV.Props.C16.single_target_accepted
#print axioms TV.Props.C16.privilege_accepted_iff
#print axioms TV.Props.C16.timing_accepted_iff
#print axioms TV.Props.C16.accepted_timing_is_sane
#print axioms TV.Props.C16.flow_modes_need_flows
#print axioms TV.Props.C16.defaults_as_documented
#print axioms TV.Props.C16.default_timing_accepted
