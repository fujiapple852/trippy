import TrippyVerif.Lemmas.Strategy
/-!
# C09 — termination, round count and failure semantics

`run c s es` is `Strategy::run` over a finite list of iteration environments (send outcomes,
wait, receive outcome per iteration).  All theorems hold for every builder-accepted
configuration and every environment.
-/
namespace TV.Props.C09
open TV.Strat

def publishedCount (outs : List IterOut) : Nat := (outs.filter fun o => o.published.isSome).length

/-- one iteration: the round id advances by one exactly when a round is published -/
theorem round_step {c : Cfg} (hc : CfgOk c) {s s' : TS} (hs : Reach c s) {e : IterEnv} {o : IterOut}
    (h : iter c s e = .ok (s', o)) : s'.round = s.round + (if o.published.isSome then 1 else 0) := by
  obtain ⟨s1, hk⟩ := iter_ok hc (reach_inv hc hs) h
  rcases hk.round with ⟨_, rfl, hp⟩ | ⟨_, rfl, hp⟩
  · simp [hp, hk.check.round]
  · simp [hp, hk.check.round]

/-- over a run the round counter advances by the number of rounds published -/
theorem run_round_count {c : Cfg} (hc : CfgOk c) : ∀ (es : List IterEnv) {s : TS}, Reach c s →
    (run c s es).state.round = s.round + publishedCount (run c s es).outs ∧ Reach c (run c s es).state := by
  intro es s hs
  refine ⟨?_, (run_steps es hs).1⟩
  fun_induction run c s es with
  | case1 s => simp [publishedCount]
  | case2 s e es hf => simp [publishedCount]
  | case3 s e es hf s1 o hit r ih =>
    show (run c s1 es).state.round = s.round + publishedCount (o :: (run c s1 es).outs)
    rw [ih (.step e o hs hit), round_step hc hs hit]
    simp only [publishedCount, List.filter_cons]
    split <;> simp <;> omega
  | case4 s e es hf er hit => simp [publishedCount]
  | case5 s e es hf hit => simp [publishedCount]

theorem run_round_le {c : Cfg} (hc : CfgOk c) (n : Nat) (hn : 1 ≤ n) (hm : c.maxRounds = some n)
    (es : List IterEnv) {s : TS} (hs : Reach c s) (hr : s.round ≤ n) :
    (run c s es).state.round ≤ n ∧ ((run c s es).ended = some (.ok ()) → (run c s es).state.round = n) := by
  fun_induction run c s es with
  | case1 s =>
    refine ⟨hr, fun h => ?_⟩
    show s.round = n
    split at h
    · rename_i hf
      simp [finished, hm] at hf
      omega
    · cases h
  | case2 s e es hf =>
    simp [finished, hm] at hf
    exact ⟨hr, fun _ => by show s.round = n; omega⟩
  | case3 s e es hf s1 o hit r ih =>
    refine ih (.step e o hs hit) ?_
    simp [finished, hm] at hf
    rw [round_step hc hs hit]
    split <;> omega
  | case4 s e es hf er hit => exact ⟨hr, fun h => by cases h⟩
  | case5 s e es hf hit => exact ⟨hr, fun h => by cases h⟩

/-- With a round limit `n` the run returns success only after exactly `n` rounds have been
published, whatever the network returned or withheld; it never publishes more. -/
theorem exactly_n_rounds {c : Cfg} (hc : CfgOk c) (n : Nat) (hn : 1 ≤ n) (hm : c.maxRounds = some n)
    (t0 : Nat) (es : List IterEnv) :
    publishedCount (run c (init c t0) es).outs ≤ n ∧
    ((run c (init c t0) es).ended = some (.ok ()) → publishedCount (run c (init c t0) es).outs = n) := by
  obtain ⟨hle, hok⟩ := run_round_le hc n hn hm es (.init t0) (by simp [init])
  have hcount := (run_round_count hc es (Reach.init (c := c) t0)).1
  have h0 : (init c t0).round = 0 := rfl
  exact ⟨by omega, fun h => by have := hok h; omega⟩

/-- the run never panics, in any environment -/
theorem run_never_panics {c : Cfg} (hc : CfgOk c) : ∀ (es : List IterEnv) {s : TS}, Reach c s →
    (run c s es).ended ≠ some .panic := by
  intro es s hs
  fun_induction run c s es with
  | case1 s => split <;> simp
  | case2 s e es hf => simp
  | case3 s e es hf s1 o hit r ih => exact ih (.step e o hs hit)
  | case4 s e es hf er hit => simp
  | case5 s e es hf hit => exact absurd hit (iter_inv hc (reach_inv hc hs) e).1

/-- a fatal receive outcome ends the iteration with that error -/
theorem fatal_recv_ends_run {c : Cfg} (hc : CfgOk c) {s : TS} (hs : Reach c s) (sends : List SendOutcome)
    (dt : Nat) : (∃ e, iter c s { sends := sends, dt := dt, recv := .fatal } = .err e) := by
  have hi := reach_inv hc hs
  rw [iter_eq hc hi]
  split
  · exact ⟨.io, rfl⟩
  · exact ⟨_, rfl⟩
  · rename_i hp
    exact absurd hp (sendRequest_spec hc hi sends).1

/-- a fatal send outcome on the first attempt ends the iteration with an I/O error (ICMP/UDP) -/
theorem fatal_send_ends_run {c : Cfg} (hc : CfgOk c) {s : TS} (hs : Reach c s) (hp : c.proto ≠ .tcp)
    (hcan : canSend c s = true) (rest : List SendOutcome) (dt : Nat) (rv : RecvOutcome) :
    iter c s { sends := .fatal :: rest, dt := dt, recv := rv } = .err .io := by
  obtain ⟨p, h⟩ := sendRequest_non_tcp hc (reach_inv hc hs) hp hcan
  simp [iter, h, headOutcome]

/-- a transient send failure (ICMP/UDP) marks exactly the just-allocated probe as failed — the
state is the one after a successful send except that this one slot is `Failed` — and tracing
continues (the iteration does not fail because of it) -/
theorem transient_failure_marks_probe {c : Cfg} (hc : CfgOk c) {s : TS} (hs : Reach c s) (hp : c.proto ≠ .tcp)
    (hcan : canSend c s = true) (rest : List SendOutcome) :
    ∃ p, sendRequest c s (.ok :: rest) = .ok (afterNext s p, [(p, .ok)]) ∧
         sendRequest c s (.probeFailed :: rest) = .ok (afterFail (afterNext s p) p, [(p, .probeFailed)]) ∧
         (afterFail (afterNext s p) p).buffer = (afterNext s p).buffer.set s.count (.failed p) := by
  have hi := reach_inv hc hs
  obtain ⟨p, h⟩ := sendRequest_non_tcp hc hi hp hcan
  refine ⟨p, by simp [h, headOutcome], by simp [h, headOutcome], ?_⟩
  rw [afterFail_buffer, count_afterNext hi.seq_ge, Nat.add_sub_cancel]

/-- address-in-use for TCP re-issues the probe under the next sequence number with the same TTL
and reports the abandoned slot as skipped -/
theorem addr_in_use_reissues {c : Cfg} (hc : CfgOk c) {s : TS} {p0 : Probe} (ha : Alloc c s p0)
    (hcap : s.count < BUFFER_SIZE) (t : Nat) :
    ∃ p, reissueProbe c s t = .ok (afterReissue s p, p) ∧ p.seq = s.sequence ∧ p.ttl + 1 = s.ttl ∧
      (afterReissue s p).buffer[s.count - 1]? = some .skipped ∧
      (afterReissue s p).buffer[s.count]? = some (.awaited p) := by
  obtain ⟨p, h1, hp⟩ := reissueProbe_spec hc ha hcap t
  have hl := ha.inv.count_lt_length hcap
  have hc1 := ha.cnt
  have h3 := hp.ttl
  have httl := ha.ttl
  refine ⟨p, h1, hp.seq, by omega, ?_, ?_⟩
  · rw [afterReissue_buffer, List.getElem?_set_ne (by omega), List.getElem?_set_self (by omega)]
  · rw [afterReissue_buffer, List.getElem?_set_self (by rw [List.length_set]; omega)]

end TV.Props.C09

#print axioms TV.Props.C09.round_step
#print axioms TV.Props.C09.run_round_count
#print axioms TV.Props.C09.exactly_n_rounds
#print axioms TV.Props.C09.run_never_panics
#print axioms TV.Props.C09.fatal_recv_ends_run
#print axioms TV.Props.C09.fatal_send_ends_run
#print axioms TV.Props.C09.transient_failure_marks_probe
#print axioms TV.Props.C09.addr_in_use_reissues
