import TrippyVerif.Gen.C12Field
/-!
# C12 — packet field accessors are exact, independent and RFC-positioned

The per-field theorems live in `Gen/C12/F_*.lean`.  Their *statements* are generated from the
hand-written RFC table `spec/rfc_fields.json`, never from the code; the *definitions* they talk
about (`TV.Pkt.<file>.<Type>.get_*/set_*`) are regenerated from `/repo`'s source on every run.
For every field `f = (k, n, sh, w)` of every view type with minimum size `m`:

* `get_f_spec : m ≤ b.length → get_f b = ok (decode (getField b k n sh w))`     (RFC position)
* `set_f_spec : m ≤ b.length → set_f b v = ok (setField b k n sh w (encode v))` (RFC store)
* `f_laws     : m ≤ b.length → ∃ b', set_f b v = ok b' ∧ b'.length = b.length ∧
                 get_f b' = ok (v truncated to w bits) ∧
                 ∀ bit j outside the field, bitAt b' j = bitAt b j`
* `new_iff / new_view_iff : constructor accepts ⇔ m ≤ length`, `minSize_rfc : minSize = m`
* `id_from_u8 : (E.from_u8 x).id = x` for the octet-backed enums.

Every `f_laws` is `field_laws` (for an address `bytes_laws`) of `Lemmas/PktEval` applied to the two `_spec` theorems.
This file restates the facts of `Lemmas/Bits` that `field_laws` rests on, and checks non-vacuity.
-/
namespace TV.Props.C12
open TV.Spec

/-- read-back: what was stored is what is read, truncated to the field width (`v : BitVec w`) -/
theorem readback (b : Buf) (k n sh w : Nat) (v : BitVec w) (hlen : k + n ≤ b.length)
    (hw : sh + w ≤ 8 * n) : getField (setField b k n sh w v) k n sh w = v :=
  getField_setField b k n sh w v hlen hw

/-- frame: every bit of the buffer outside the field's RFC bit range is untouched -/
theorem frame (b : Buf) (k n sh w : Nat) (v : BitVec w) (j : Nat) (hlen : k + n ≤ b.length)
    (hw : sh + w ≤ 8 * n) (hj : j < 8 * (k + n) - sh - w ∨ 8 * (k + n) - sh ≤ j) :
    bitAt (setField b k n sh w v) j = bitAt b j :=
  bitAt_setField_outside b k n sh w v j hlen hw hj

/-- independence: another field of the same word keeps its value -/
theorem independent (b : Buf) (k n sh w sh' w' : Nat) (v : BitVec w) (hlen : k + n ≤ b.length)
    (hd : sh' + w' ≤ sh ∨ sh + w ≤ sh') :
    getField (setField b k n sh w v) k n sh' w' = getField b k n sh' w' :=
  getField_setField_disjoint b k n sh w sh' w' v hlen hd

/-- `getField` really is "big-endian word, shifted and masked": its value as a number -/
theorem getField_toNat (b : Buf) (k n sh w : Nat) :
    (getField b k n sh w).toNat = ((wordBV b k n).toNat >>> sh) % 2 ^ w := by
  simp [getField, BitVec.extractLsb'_toNat]

/-! non-vacuity: the hypotheses are met by concrete non-trivial buffers, and the instances say
what one expects on them -/
example : (Pkt.ipv4.Ipv4Packet.get_version [0x45, 0, 0, 20, 0, 0, 0x40, 0, 64, 1, 0, 0, 10, 0, 0, 1, 10, 0, 0, 2])
    = .ok 4 := by decide
-- a flow label with bits beyond its 20: the neighbouring traffic class reads back unchanged
example : (Pkt.ipv6.Ipv6Packet.set_flow_label (List.replicate 40 0xff) 0x00F00000 >>=
    Pkt.ipv6.Ipv6Packet.get_traffic_class) = .ok 0xff := by decide
example : ∃ b v, 20 ≤ b.length ∧ Pkt.ipv4.Ipv4Packet.set_dscp b v ≠ .ok b :=
  ⟨List.replicate 20 0, 5, by decide, by decide⟩

end TV.Props.C12

#print axioms TV.Spec.getField_setField
#print axioms TV.Spec.bitAt_setField_outside
#print axioms TV.Spec.getField_setField_disjoint
#print axioms TV.Spec.length_setField
#print axioms TV.Spec.octet_setField_outside
