import TrippyVerif.Lemmas.StrategyHist
/-!
# C01 — every reported probe outcome matches what the network actually did (strategy layer)

The *ghost history* of the round in progress records what really happened: every `send_probe`
call with its outcome (`sent`), and every genuine response the network handed over (`accepted`,
in order of arrival).  `expectedSlot` says how a probe must be reported given that history:
`Complete` with the data of the *first* genuine response to it (responder, receive time, kind,
TOS, checksums, extensions), otherwise `Awaited`; `Failed` if sending failed; `Skipped` if it was
re-issued after address-in-use.  `GInv c s g` says that the history `g` fits the state `s`; every
reachable state has such a history (`Strat.reach_hist`, Lemmas/Compose.lean).

`C01_strategy`: at every publication, the published round has exactly one entry per `send_probe`
call of that round, in order, and each entry is the one the history dictates — none invented,
none dropped, none counted twice.  The wire half (bytes of a genuine response decode to that
response: C02), the aggregation half (hop totals are the sums of these outcomes: C05) and the
end-to-end simulation are separate obligations of C01.
-/
namespace TV.Props.C01
open TV.Strat

/-- the ghost history after one iteration (given the state `s1` after the send step) -/
def ghostStep (c : Cfg) (s1 : TS) (g : Ghost) (e : IterEnv) (o : IterOut) : Ghost :=
  let acc := match e.recv with
    | .resp r => (match genuine c s1 r with
        | some p => [(p, strategyResp c r)]
        | none => [])
    | _ => []
  let g' : Ghost := { sent := g.sent ++ o.sent, accepted := g.accepted ++ acc }
  if o.published.isSome then {} else g'

theorem ghostStep_eq (c : Cfg) (s1 : TS) (g : Ghost) (e : IterEnv) (o : IterOut) :
    ghostStep c s1 g e o = if o.published.isSome then {}
      else { sent := g.sent ++ o.sent, accepted := g.accepted ++ acceptedBy c s1 e.recv } := rfl

/-- **C01 (strategy layer).** -/
theorem C01_strategy {c : Cfg} (hc : CfgOk c) {s s' : TS} (hs : Reach c s) {g : Ghost} (hg : GInv c s g)
    {e : IterEnv} {o : IterOut} (h : iter c s e = .ok (s', o)) :
    ∃ s1, sendRequest c s e.sends = .ok (s1, o.sent) ∧
      GInv c s' (ghostStep c s1 g e o) ∧
      (∀ r, o.published = some r →
        let acc := g.accepted ++ (match e.recv with
          | .resp rs => (match genuine c s1 rs with
              | some p => [(p, strategyResp c rs)]
              | none => [])
          | _ => [])
        r.probes = (g.sent ++ o.sent).map (expectedSlot acc)) := by
  obtain ⟨s1, hk⟩ := iter_ok hc (reach_inv hc hs) h
  have hg2 := ginv_iter hg hk
  refine ⟨s1, hk.send, ?_, fun r hr => ?_⟩
  · rw [ghostStep_eq]
    rcases hk.round with ⟨_, rfl, hp⟩ | ⟨_, rfl, hp⟩
    · rw [hp]
      exact hg2
    · rw [hp]
      exact ginv_empty c (count_afterAdvance c _)
  · obtain rfl := hk.published hr
    -- the `match` of the statement is `acceptedBy c s1 e.recv` unfolded
    show (roundOf _).probes = (g.sent ++ o.sent).map (expectedSlot (g.accepted ++ acceptedBy c s1 e.recv))
    exact roundOf_probes hg2

/-- the empty history fits the initial state: where the hypothesis `GInv c s g` of `C01_strategy` starts -/
theorem ginv_init (c : Cfg) (t0 : Nat) : GInv c (init c t0) {} :=
  ginv_empty c (count_init c t0)

/-- a reported `Complete` entry: the call went out, and the entry carries the data of a response accepted in
this round under the call's sequence number (the accepted probe is then the call's: `GInv.sent_inj`) -/
theorem complete_means_answered (acc : List (Probe × SResp)) (x : Probe × SendOutcome) (cp : Complete)
    (h : expectedSlot acc x = .complete cp) :
    x.2 = .ok ∧ ∃ a ∈ acc, a.1.seq = x.1.seq ∧ cp = mkComplete a.1 a.2 :=
  expectedSlot_complete h

/-- an `Awaited` entry: the call went out and no accepted response carries its sequence number -/
theorem awaited_means_unanswered (acc : List (Probe × SResp)) (x : Probe × SendOutcome) (p : Probe)
    (hx : x.2 ≠ .fatal) (h : expectedSlot acc x = .awaited p) :
    x = (p, .ok) ∧ ∀ a ∈ acc, a.1.seq ≠ p.seq := by
  obtain ⟨rfl, hf⟩ := expectedSlot_awaited hx h
  refine ⟨rfl, fun a ha hs => ?_⟩
  simpa [hs] using List.find?_eq_none.mp hf a ha

end TV.Props.C01

#print axioms TV.Props.C01.C01_strategy
#print axioms TV.Props.C01.ginv_init
#print axioms TV.Props.C01.complete_means_answered
#print axioms TV.Props.C01.awaited_means_unanswered
