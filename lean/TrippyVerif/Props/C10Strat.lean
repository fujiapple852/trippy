import TrippyVerif.Props.C06
/-!
# C10, "when the path is stable and the target answers, that length equals the target's true distance"

The aggregator theorems of C10 take the path length each round reports as given.  This file proves
where that length comes from, for a **stable path**: a network in which the probe with time-to-live
`t` is answered by the target exactly when `t ≥ d` (`d` = the target's true distance) and by a
router otherwise — whatever else happens (loss, junk, duplicates, late answers, re-issued probes,
any order of arrival).

What a *route change* does to the remembered distance (the `≥`-reset in `newTargetTtl`) is outside the
stable-path hypothesis; the last section states it for a single response, and the scripted route changes of
the correspondence run exercise it.
-/
namespace TV.Props.C10Strat
open TV.Strat

/-- the environment of one iteration on a stable path with the target at distance `d`:
a genuine response comes from the target iff the probe it answers has `ttl ≥ d` -/
def StableEnv (c : Cfg) (d : Nat) (s1 : TS) (e : IterEnv) : Prop :=
  ∀ r p, e.recv = .resp r → genuine c s1 r = some p → (strategyResp c r).isTarget = decide (d ≤ p.ttl)

section
variable {c : Cfg} {s s1 s' : TS} {e : IterEnv} {o : IterOut}

theorem targetTtl_afterRecv (hk : IterOk c s e s1 s' o) : s'.targetTtl = (afterRecv c s1 e.dt e.recv).targetTtl := by
  rcases hk.round with ⟨_, rfl, _⟩ | ⟨_, rfl, _⟩
  · rfl
  · exact afterAdvance_targetTtl c _

theorem targetTtl_of_genuine (hk : IterOk c s e s1 s' o) {r : Resp} {p : Probe} (hrv : e.recv = .resp r)
    (hg : genuine c s1 r = some p) : s'.targetTtl = newTargetTtl s (strategyResp c r).isTarget p.ttl := by
  rw [targetTtl_afterRecv hk, hrv]
  simp only [afterRecv, hg, afterComplete_targetTtl]
  exact newTargetTtl_congr hk.sent.targetTtl _ _

theorem published_largestTtl (hk : IterOk c s e s1 s' o) {r : Round} {t : Nat} (hr : o.published = some r)
    (ht : s'.targetTtl = some t) : r.largestTtl = t := by
  obtain rfl := hk.published hr
  rw [targetTtl_afterRecv hk] at ht
  rw [roundOf_largestTtl, ht]

theorem targetTtl_of_none (hk : IterOk c s e s1 s' o) (ha : acceptedBy c s1 e.recv = []) :
    s'.targetTtl = s.targetTtl := by
  rcases afterRecv_cases c s1 e.dt e.recv with ⟨_, he⟩ | ⟨r, p, _, _, ha', _⟩
  · rw [targetTtl_afterRecv hk, he]
    exact hk.sent.targetTtl
  · rw [ha'] at ha
    cases ha

end

/-- **What one iteration does to the remembered target distance**, and what a round published by
that iteration reports. -/
theorem iter_targetTtl {c : Cfg} (hc : CfgOk c) {s s' : TS} (hs : Reach c s) {e : IterEnv} {o : IterOut}
    (h : iter c s e = .ok (s', o)) :
    ∃ s1, sendRequest c s e.sends = .ok (s1, o.sent) ∧
      s'.targetTtl = (match e.recv with
        | .resp r => (match genuine c s1 r with
            | some p => newTargetTtl s (strategyResp c r).isTarget p.ttl
            | none => s.targetTtl)
        | _ => s.targetTtl) ∧
      (∀ r t, o.published = some r → s'.targetTtl = some t → r.largestTtl = t) := by
  obtain ⟨s1, hk⟩ := iter_ok hc (reach_inv hc hs) h
  refine ⟨s1, hk.send, ?_, fun r t => published_largestTtl hk⟩
  · cases hrv : e.recv with
    | resp r =>
      dsimp only
      cases hg : genuine c s1 r with
      | some p => exact targetTtl_of_genuine hk hrv hg
      | none => exact targetTtl_of_none hk (by simp [acceptedBy, hrv, hg])
    | none => exact targetTtl_of_none hk (by simp [acceptedBy, hrv])
    | fatal => exact targetTtl_of_none hk (by simp [acceptedBy, hrv])

/-- states reachable on a stable path with the target at distance `d` -/
inductive ReachS (c : Cfg) (d : Nat) : TS → Prop
  | init (t0 : Nat) : ReachS c d (init c t0)
  | step {s s' s1 : TS} (e : IterEnv) (o : IterOut) : ReachS c d s → iter c s e = .ok (s', o) →
      sendRequest c s e.sends = .ok (s1, o.sent) → StableEnv c d s1 e → ReachS c d s'

theorem ReachS.reach {c : Cfg} {d : Nat} {s : TS} (h : ReachS c d s) : Reach c s := by
  induction h with
  | init t0 => exact .init t0
  | step e o _ hit _ _ ih => exact .step e o ih hit

theorem step_targetTtl {c : Cfg} (hc : CfgOk c) {d : Nat} {s s' s1 : TS} (hs : Reach c s) {e : IterEnv}
    {o : IterOut} (h : iter c s e = .ok (s', o)) (h1 : sendRequest c s e.sends = .ok (s1, o.sent))
    (hst : StableEnv c d s1 e) :
    s'.targetTtl = s.targetTtl ∨
    ∃ r p, e.recv = .resp r ∧ genuine c s1 r = some p ∧
      s'.targetTtl = newTargetTtl s (decide (d ≤ p.ttl)) p.ttl := by
  have hk := iter_ok_of_send hc (reach_inv hc hs) h h1
  rcases afterRecv_cases c s1 e.dt e.recv with ⟨ha, _⟩ | ⟨r, p, hrv, hg, _, _⟩
  · exact Or.inl (targetTtl_of_none hk ha)
  · exact Or.inr ⟨r, p, hrv, hg, by rw [targetTtl_of_genuine hk hrv hg, hst r p hrv hg]⟩

/-- on a stable path the remembered target distance is never below the true distance -/
theorem target_ttl_ge {c : Cfg} (hc : CfgOk c) {d : Nat} {s : TS} (h : ReachS c d s) :
    ∀ t, s.targetTtl = some t → d ≤ t := by
  induction h with
  | init t0 => intro t ht; simp [init] at ht
  | step e o hr hit h1 hst ih =>
    intro t ht
    rcases step_targetTtl hc hr.reach hit h1 hst with heq | ⟨r, p, _, _, heq⟩
    · exact ih t (heq ▸ ht)
    · rw [heq] at ht
      rcases newTargetTtl_some ht with ⟨hT, rfl⟩ | hcur
      · simpa using hT
      · exact ih t hcur

/-- accepting the answer to a probe with `ttl = d` establishes the true distance -/
theorem exact_answer_establishes {c : Cfg} (hc : CfgOk c) {d : Nat} {s s' s1 : TS} (hr : ReachS c d s)
    {e : IterEnv} {o : IterOut} (h : iter c s e = .ok (s', o))
    (h1 : sendRequest c s e.sends = .ok (s1, o.sent)) (hst : StableEnv c d s1 e)
    (r : Resp) (p : Probe) (hrv : e.recv = .resp r) (hg : genuine c s1 r = some p) (hp : p.ttl = d) :
    s'.targetTtl = some d := by
  rw [targetTtl_of_genuine (iter_ok_of_send hc (reach_inv hc hr.reach) h h1) hrv hg, hst r p hrv hg, hp,
    newTargetTtl_eq]
  cases hcur : s.targetTtl with
  | none => simp
  | some t0 =>
    have := target_ttl_ge hc hr t0 hcur
    simp
    omega

/-- once established, the true distance stays (also across rounds) -/
theorem established_stays {c : Cfg} (hc : CfgOk c) {d : Nat} {s s' s1 : TS} (hr : ReachS c d s)
    (hd : s.targetTtl = some d) {e : IterEnv} {o : IterOut} (h : iter c s e = .ok (s', o))
    (h1 : sendRequest c s e.sends = .ok (s1, o.sent)) (hst : StableEnv c d s1 e) :
    s'.targetTtl = some d := by
  rcases step_targetTtl hc hr.reach h h1 hst with heq | ⟨r, p, _, _, heq⟩
  · rw [heq, hd]
  · rw [heq, newTargetTtl_eq, hd]
    by_cases hle : d ≤ p.ttl
    · simp [hle]
    · simp [hle, Option.filter]

/-- **C10 (strategy half).**  On a stable path, every round published in or after the iteration in
    which the answer to the `ttl = d` probe was accepted reports the path length `d`. -/
theorem stable_path_length {c : Cfg} (hc : CfgOk c) {d : Nat} {s s' s1 : TS} (hr : ReachS c d s)
    {e : IterEnv} {o : IterOut} (h : iter c s e = .ok (s', o))
    (h1 : sendRequest c s e.sends = .ok (s1, o.sent)) (hst : StableEnv c d s1 e)
    (hest : s.targetTtl = some d ∨
      ∃ r p, e.recv = .resp r ∧ genuine c s1 r = some p ∧ p.ttl = d)
    (rd : Round) (hpub : o.published = some rd) : rd.largestTtl = d := by
  have hd' : s'.targetTtl = some d := by
    rcases hest with hd | ⟨r, p, hrv, hg, hp⟩
    · exact established_stays hc hr hd h h1 hst
    · exact exact_answer_establishes hc hr h h1 hst r p hrv hg hp
  exact published_largestTtl (iter_ok_of_send hc (reach_inv hc hr.reach) h h1) hpub hd'

/-- **C06 on a stable path: never above the target's distance once it is established.**  After the
    answer to the `ttl = d` probe has been accepted, no probe with a larger TTL is handed to
    `send_probe` again — in this round or any later one. -/
theorem stable_path_no_probe_beyond {c : Cfg} (hc : CfgOk c) {d : Nat} {s s' : TS} (hr : ReachS c d s)
    (hest : s.targetTtl = some d) {e : IterEnv} {o : IterOut} (h : iter c s e = .ok (s', o)) :
    ∀ x ∈ o.sent, x.1.ttl ≤ d := by
  intro x hx
  have hne : o.sent ≠ [] := by intro hn; simp [hn] at hx
  obtain ⟨_, _, _, htt, _, hall⟩ := C06.send_discipline hc hr.reach h hne
  rw [(hall x hx).1]
  exact htt d hest

/-! ## a path that changes

The remembered distance must not survive a route change that moves the target further away: an answer that is *not* from
the target, from a hop at or beyond the remembered distance, forgets it (so the next probes go further again); an answer
from below the remembered distance keeps it; the target answering nearer than remembered lowers it. -/

/-- a router answering at or beyond the remembered distance: the distance is forgotten — exactly then -/
theorem router_at_or_beyond_forgets (s : TS) (t ttl : Nat) (ht : s.targetTtl = some t) :
    newTargetTtl s false ttl = none ↔ t ≤ ttl := by
  simp [newTargetTtl_eq, ht, Option.filter]

/-- a router answering below the remembered distance keeps it -/
theorem router_below_keeps (s : TS) (t ttl : Nat) (ht : s.targetTtl = some t) (h : ttl < t) :
    newTargetTtl s false ttl = some t := by
  simp [newTargetTtl_eq, ht, Option.filter, h]

/-- the target answering: the remembered distance becomes the smaller of the two (a nearer target is followed at once) -/
theorem target_answer_takes_min (s : TS) (ttl : Nat) :
    newTargetTtl s true ttl = some (match s.targetTtl with | none => ttl | some t => min ttl t) := by
  rw [newTargetTtl_eq]
  cases s.targetTtl with
  | none => simp
  | some t => simp

/-- nothing is remembered ⇒ a router's answer leaves it so -/
theorem router_without_memory (s : TS) (ttl : Nat) (hn : s.targetTtl = none) : newTargetTtl s false ttl = none := by
  simp [newTargetTtl_eq, hn]

end TV.Props.C10Strat

#print axioms TV.Props.C10Strat.iter_targetTtl
#print axioms TV.Props.C10Strat.target_ttl_ge
#print axioms TV.Props.C10Strat.exact_answer_establishes
#print axioms TV.Props.C10Strat.established_stays
#print axioms TV.Props.C10Strat.stable_path_length
#print axioms TV.Props.C10Strat.stable_path_no_probe_beyond
#print axioms TV.Props.C10Strat.router_at_or_beyond_forgets
#print axioms TV.Props.C10Strat.router_below_keeps
#print axioms TV.Props.C10Strat.target_answer_takes_min
#print axioms TV.Props.C10Strat.router_without_memory
