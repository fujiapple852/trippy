import TrippyVerif.Lemmas.StateAgg
/-
C19 (aggregator half) — "NAT is flagged at the first hop that sees a rewritten datagram"

Within each round a responding hop (with both checksums present) is reported NAT-detected exactly
when the UDP checksum of the datagram it quotes differs from that quoted by the previous responding
hop (or, for the first responding hop, from the expected checksum); all other responding hops report
not-detected; hops whose probes carry no checksums keep not-applicable.

Model : `TV.Agg.{FlowState.applyRound, natStatus, Updater.prevHopChecksum}` (Model/StateAgg.lean)
Spec  : `TV.Reagg.{ckPair, lastCk, natOf}` – positional: the reference checksum of a response is the
        checksum quoted by the last checksum-carrying response *before it in the round* (`lastCk`),
        else its own expected checksum.

"Responding hop" = a completed probe; the probes of a `RoundWF` round have strictly ascending
ttls, so "previous responding hop" = previous completed probe (with checksums) in probe order, and
each hop receives at most one outcome per round.  All statements hold for every number type `F`.
The wire half (which responses carry checksums, `expected` = the checksum as dispatched) is a
separate property.
-/
namespace TV.Props.C19
open TV.Strat TV.Agg TV.Reagg

variable {F : Type} [Num F]

theorem detected_iff (ref a : Nat) :
    ((if ref = a then NatStatus.notDetected else .detected) = .detected ↔ a ≠ ref) ∧
    ((if ref = a then NatStatus.notDetected else .detected) = .notDetected ↔ a = ref) := by
  by_cases hc : ref = a
  · simp [hc]
  · simp [hc, Ne.symm hc]

/-- The status set by a completed probe that carries both checksums: `Detected` iff the quoted
(actual) checksum differs from the reference – the checksum quoted by the previous
checksum-carrying response of the round, or the probe's own expected checksum if there is none –
else `NotDetected`.  Holds for every flow state and every well-formed round. -/
theorem status_of_response (fs : FlowState F) (r : Round) (hlen : fs.hops.length = 254) (hwf : RoundWF r)
    (pre post : List Slot) (c : Complete) (e a : Nat)
    (hsplit : r.probes = pre ++ Slot.complete c :: post) (he : c.expCk = some e) (ha : c.actCk = some a) :
    ∃ fs' hop, fs.applyRound r = .ok fs' ∧ fs'.hops[c.probe.ttl - 1]? = some hop ∧
      (hop.lastNatStatus = .detected ↔ a ≠ (lastCk pre).getD e) ∧
      (hop.lastNatStatus = .notDetected ↔ a = (lastCk pre).getD e) := by
  obtain ⟨fs', hop, h1, _, h3⟩ := hop_after_round fs r hlen hwf pre post _ _ _ hsplit
    (show tagOf pre (Slot.complete c) post = some (c.probe.ttl, .complete c (natOf pre c)) from rfl)
  refine ⟨fs', _, h1, h3, ?_⟩
  rw [hopStep_nat, Outcome.nat, natOf_of_ckPair (ckPair_complete.2 ⟨he, ha⟩), Option.getD_some]
  exact detected_iff _ a

/-- A completed probe without (both) checksums leaves the hop's status unchanged – on a hop that
never saw checksums it stays `NotApplicable` – and so do awaited and failed probes. -/
theorem status_unchanged_without_checksums (fs : FlowState F) (r : Round) (hlen : fs.hops.length = 254)
    (hwf : RoundWF r) (pre post : List Slot) (s : Slot) (t : Nat) (hsplit : r.probes = pre ++ s :: post)
    (ht : slotTtl s = some t) (hnock : ckPair s = none) :
    ∃ fs' before after, fs.applyRound r = .ok fs' ∧ fs.hops[t - 1]? = some before ∧
      fs'.hops[t - 1]? = some after ∧ after.lastNatStatus = before.lastNatStatus := by
  obtain ⟨o, htag, hnat⟩ : ∃ o, tagOf pre s post = some (t, o) ∧ o.nat = none := by
    cases s with
    | complete c =>
      cases ht
      exact ⟨_, rfl, natOf_of_no_ckPair hnock⟩
    | awaited p =>
      cases ht
      exact ⟨_, rfl, rfl⟩
    | failed p =>
      cases ht
      exact ⟨_, rfl, rfl⟩
    | notSent => cases ht
    | skipped => cases ht
  obtain ⟨fs', hop, h1, h2, h3⟩ := hop_after_round fs r hlen hwf pre post s t o hsplit htag
  exact ⟨fs', hop, _, h1, h2, h3, by rw [hopStep_nat, hnat]; rfl⟩

/-- on a fresh state such a hop reports `NotApplicable` -/
theorem fresh_hop_not_applicable (ms : Nat) (t : Nat) (h1 : 1 ≤ t) (h2 : t ≤ 254) :
    ∃ hop, (FlowState.new (F := F) ms).hops[t - 1]? = some hop ∧ hop.lastNatStatus = .notApplicable :=
  ⟨Hop.default, FlowState.new_hops ms (t - 1) (by omega), rfl⟩

/-- The checksum carried forward is the one quoted by the latest checksum-carrying response:
`nat_status` returns the previous checksum only when it equals the actual one. -/
theorem carried_checksum (expected actual : Nat) (prev : Option Nat) :
    (natStatus expected actual prev).2 = actual ∧
    ((natStatus expected actual prev).1 = .detected ↔ actual ≠ prev.getD expected) := by
  rw [natStatus_eq]
  exact ⟨rfl, (detected_iff _ actual).1⟩

/-- No rewriting ⇒ no detection: if every checksum-carrying response of the round quotes the
same value `v` and was expected to (`expected = actual = v`), every one of them is classified
`NotDetected`. -/
theorem no_rewrite_no_detection (probes : List Slot) (v : Nat)
    (hall : ∀ s ∈ probes, ∀ p, ckPair s = some p → p = (v, v))
    (pre post : List Slot) (c : Complete) (hsplit : probes = pre ++ Slot.complete c :: post)
    (hck : (ckPair (Slot.complete c)).isSome) :
    natOf pre c = some .notDetected := by
  obtain ⟨p, hp⟩ := Option.isSome_iff_exists.1 hck
  rw [hall _ (by simp [hsplit]) p hp] at hp
  have hpre : ∀ s ∈ pre, ∀ p, ckPair s = some p → p.2 = v := fun s hs p hp =>
    congrArg Prod.snd (hall s (by simp [hsplit, hs]) p hp)
  rw [natOf_of_ckPair hp, lastCk_getD hpre]
  simp

/-- One rewriting device: if the checksum-carrying responses of `p₁` all have
`expected = actual = v` and those of `p₂` (the probes from the device on) all have `expected = v`,
`actual = w ≠ v`, then in the round `p₁ ++ p₂` exactly the first checksum-carrying response of `p₂`
is `Detected`: those of `p₁` are not, the first of `p₂` is, the later ones of `p₂` are not. -/
theorem single_rewrite_detected_once (p₁ p₂ : List Slot) (v w : Nat) (hvw : w ≠ v)
    (h₁ : ∀ s ∈ p₁, ∀ p, ckPair s = some p → p = (v, v))
    (h₂ : ∀ s ∈ p₂, ∀ p, ckPair s = some p → p = (v, w)) :
    -- before the device
    (∀ pre post c, p₁ = pre ++ Slot.complete c :: post → (ckPair (Slot.complete c)).isSome →
      natOf pre c = some .notDetected) ∧
    -- from the device on: `Detected` iff no checksum-carrying response of `p₂` precedes
    (∀ pre post c, p₂ = pre ++ Slot.complete c :: post → (ckPair (Slot.complete c)).isSome →
      natOf (p₁ ++ pre) c =
        some (if pre.filterMap ckPair = [] then .detected else .notDetected)) := by
  refine ⟨no_rewrite_no_detection p₁ v h₁, fun pre post c hs hck => ?_⟩
  obtain ⟨p, hp⟩ := Option.isSome_iff_exists.1 hck
  rw [h₂ _ (by simp [hs]) p hp] at hp
  have hpre : ∀ s ∈ pre, ∀ p, ckPair s = some p → p.2 = w := fun s hs' p hp =>
    congrArg Prod.snd (h₂ s (by simp [hs, hs']) p hp)
  have hp₁ : (lastCk p₁).getD v = v := by
    rw [lastCk_getD (fun s hs p hp => congrArg Prod.snd (h₁ s hs p hp))]; simp
  rw [natOf_of_ckPair hp, lastCk_append, Option.getD_or, hp₁, lastCk_getD hpre]
  split <;> simp [Ne.symm hvw]

def pr (ttl : Nat) : Probe :=
  { seq := 33000 + ttl, ident := 33000 + ttl, srcPort := 5000, destPort := 33434, ttl := ttl, round := 0,
    sent := 0, flags := 0 }
def cp (ttl host : Nat) (e a : Option Nat) : Slot :=
  .complete { probe := pr ttl, host := host, received := 700 + ttl, kind := .timeExceeded 0, tos := none,
              expCk := e, actCk := a, ext := none }
/-- a NAT device between ttl 2 and 3 (the hop at ttl 3 is silent): checksum 0x1234 becomes 0xbeef -/
def exRound : Round :=
  { probes := [cp 1 10 (some 0x1234) (some 0x1234), cp 2 20 (some 0x1234) (some 0x1234), .awaited (pr 3),
               cp 4 40 (some 0x1234) (some 0xbeef), cp 5 50 (some 0x1234) (some 0xbeef), cp 6 7 none none],
    largestTtl := 6, reason := .targetFound }

example : RoundWF exRound := by decide
-- the classification of the six probes: ND ND – D ND (no checksums)
example : (tagSlots [] exRound.probes).map (fun x => (x.1, x.2.nat)) =
    [(1, some .notDetected), (2, some .notDetected), (3, none), (4, some .detected), (5, some .notDetected),
     (6, none)] := by decide
-- the hypotheses of `single_rewrite_detected_once` at the device
example : (∀ s ∈ exRound.probes.take 3, ∀ p, ckPair s = some p → p = (0x1234, 0x1234)) ∧
    (∀ s ∈ exRound.probes.drop 3, ∀ p, ckPair s = some p → p = (0x1234, 0xbeef)) := by decide

end TV.Props.C19

#print axioms TV.Props.C19.status_of_response
#print axioms TV.Props.C19.status_unchanged_without_checksums
#print axioms TV.Props.C19.fresh_hop_not_applicable
#print axioms TV.Props.C19.carried_checksum
#print axioms TV.Props.C19.no_rewrite_no_detection
#print axioms TV.Props.C19.single_rewrite_detected_once
