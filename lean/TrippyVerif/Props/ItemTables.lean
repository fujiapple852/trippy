import TrippyVerif.Gen.ItemTables
/-!
# C16 — the theme-colour and key-binding tables (translator tie)

Outside `build_config`'s `cfg_layer` calls two tables of options are layered by hand-written stanzas, one per item:
`TuiTheme::from((cli items, [theme-colors]))` and `TuiBindings::from((cli items, [bindings]))`.  The translator
`tools/rs2lean/itemtables.py` accepts a stanza only in the shape

    FIELD: *cli.get(&Item::V).or(file.F.as_ref()).unwrap_or(&Self::default().D)

— command line over file over default, which is `layer` below — and emits the row (FIELD, v, F, D).  Over the rows
regenerated on every run:

* `*_rows_aligned`: in every row the command-line item, the file field, the default and the result field are the
  *same* option (`v = F`, `D = FIELD`, and `F = FIELD` (bindings) / `F = FIELD ++ "_color"` (colours));
* `*_rows_complete`: the rows are exactly the item enum's variants, exactly the file section's fields and exactly the
  result structure's fields, each once — no item is dropped, none is layered twice (the deprecated `toggle-privacy`
  binding, which `build_config` rejects, is the one item that is not layered);
* `ui_rows_aligned`: what `make_tui_config` hands the user interface (`Theme::from`, `Bindings::from`) takes every field
  from the field of the same name;
* `layer_*`: the precedence law of the stanza shape.

In the statements `r.1`, `r.2.1`, `r.2.2.1`, `r.2.2.2` are FIELD, v, F, D.
-/
namespace TV.Props.ItemTables
open TV.Gen.ItemTables

/-- the stanza `cli.or(file).unwrap_or(default)`, written by hand: its only tie to the source is the translator's shape
check -/
def layer {α : Type} (cli file : Option α) (default : α) : α := (cli.or file).getD default

theorem layer_cli {α : Type} (c : α) (file : Option α) (d : α) : layer (some c) file d = c := rfl
theorem layer_file {α : Type} (f : α) (d : α) : layer none (some f) d = f := rfl
theorem layer_default {α : Type} (d : α) : layer (none : Option α) none d = d := rfl

theorem theme_rows_aligned :
    ∀ r ∈ themeRows, r.2.1 = r.2.2.1 ∧ r.2.2.2 = r.1 ∧ r.2.2.1 = r.1 ++ "_color" := by
  decide +kernel

theorem binding_rows_aligned :
    ∀ r ∈ bindingRows, r.2.1 = r.2.2.1 ∧ r.2.2.2 = r.1 ∧ r.2.2.1 = r.1 := by decide +kernel

/-- the one item that is deliberately not layered: the deprecated `toggle-privacy` binding is rejected by
`build_config` with a hint when given (on the command line or in the file) -/
def notLayered : List String := ["deprecated_toggle_privacy"]

def SameSet (xs ys : List String) : Prop := xs.Nodup ∧ (∀ x ∈ xs, x ∈ ys) ∧ ∀ y ∈ ys, y ∈ xs
instance (xs ys : List String) : Decidable (SameSet xs ys) := by unfold SameSet; infer_instance

theorem theme_rows_complete :
    SameSet (themeRows.map (·.2.1)) themeItems ∧ SameSet (themeRows.map (·.2.2.1)) themeFileFields ∧
    SameSet (themeRows.map (·.1)) themeResultFields := by decide +kernel

theorem binding_rows_complete :
    SameSet (bindingRows.map (·.2.1) ++ notLayered) bindingItems ∧
    SameSet (bindingRows.map (·.2.2.1) ++ notLayered) bindingFileFields ∧
    SameSet (bindingRows.map (·.1)) bindingResultFields := by decide +kernel

/-- **the user interface gets every option under its own name**: `Theme::from(TuiTheme)` and
`Bindings::from(TuiBindings)` convert field `f` from field `f`, for exactly the fields of the configuration -/
theorem ui_rows_aligned :
    (∀ r ∈ themeUiRows, r.1 = r.2) ∧ SameSet (themeUiRows.map (·.1)) themeResultFields ∧
    (∀ r ∈ bindingUiRows, r.1 = r.2) ∧ SameSet (bindingUiRows.map (·.1)) bindingResultFields :=
  -- `List.map_inj_left`: pointwise, from `l.map (·.1) = l.map (·.2)` by evaluation
  ⟨List.map_inj_left.1 rfl, by decide +kernel, List.map_inj_left.1 rfl, by decide +kernel⟩

/-- non-vacuity: the tables are not empty -/
theorem tables_nonempty : themeRows.length = themeItems.length ∧ 0 < themeRows.length ∧
    bindingRows.length + 1 = bindingItems.length ∧ 0 < bindingRows.length := by decide +kernel

#print axioms layer_cli
#print axioms layer_file
#print axioms layer_default
#print axioms theme_rows_aligned
#print axioms binding_rows_aligned
#print axioms theme_rows_complete
#print axioms binding_rows_complete
#print axioms ui_rows_aligned
#print axioms tables_nonempty
end TV.Props.ItemTables
