import TrippyVerif.Lemmas.AggRun
/-
C10 (aggregator half) — "The hop table covers exactly the probed path and ends at the target"

Whatever rounds have been published, the hop list is a gap-free ascending run of TTLs starting at
the lowest TTL ever probed and ending at the greatest path length any round reported, each probed
hop carrying its own TTL, and the designated target hop is the one at the latest round's path
length. … when nothing answers it is zero and the list is empty.  Querying the table never fails,
including with first-ttl greater than one or before any response has arrived.

Model : `TV.Agg.State.{hops, hopsForFlow, targetHop, isTarget, isInRound}`, `FlowState.{hopsR,
        targetHopR}` (Model/StateAgg.lean)
Spec  : `TV.Reagg.{RoundWF, lowestTtl, highestTtl, latestTtl, windowTtls, outcomes, reagg}`

`RoundWF` is stated, not hidden: it is what `publish_trace` emits (strategy half of C10) and it is
what the aggregator needs – the witnesses at the end show the panic behind each of its bounds.
All statements hold for every number type `F`.
-/
namespace TV.Props.C10
open TV.Strat TV.Agg TV.Reagg

variable {F : Type} [Num F]

/-- the default flow of the state after a history is the flow-level fold of that history -/
theorem default_flow (cfg : Agg.Cfg) (hist : List Round) (hwf : ∀ r ∈ hist, RoundWF r) :
    ∃ st fs, State.run (State.new (F := F) cfg) hist = .ok st ∧
      FlowState.run (FlowState.new cfg.maxSamples) hist = .ok fs ∧ lookupFlow st.flows 0 = some fs := by
  obtain ⟨st, h1, _, h0, _⟩ := State.run_spec_new (F := F) cfg hist hwf
  exact ⟨st, _, h1, run_steps hist hwf _ (FlowState.new_len _), h0⟩

omit [Num F] in
theorem flowR_of_lookup {st : State F} {id : Nat} {fs : FlowState F} (h : lookupFlow st.flows id = some fs) :
    st.flowR id = .ok fs := by simp [State.flowR, h]

theorem getters_of_reached {st : State F} {id ms : Nat} {fs : FlowState F} {rs : List Round}
    (hfs : lookupFlow st.flows id = some fs) (hR : Reached ms rs fs) (hwf : ∀ r ∈ rs, RoundWF r) :
    (∃ hs, st.hopsForFlow id = .ok hs) ∧ (∃ h, st.targetHop id = .ok h) ∧
    (∀ hop, ∃ b, st.isTarget hop id = .ok b) ∧ (∀ hop, ∃ b, st.isInRound hop id = .ok b) := by
  obtain ⟨hs, w2, _⟩ := hR.hopsR hwf
  have hfs' := flowR_of_lookup hfs
  obtain ⟨tgt, w3⟩ : ∃ tgt, fs.targetHopR = .ok tgt := ⟨_, hR.targetHopR hwf⟩
  refine ⟨⟨hs, ?_⟩, ⟨tgt, ?_⟩, fun hop => ⟨fs.isTarget hop, ?_⟩, fun hop => ⟨fs.isInRound hop, ?_⟩⟩
  · simp [State.hopsForFlow, hfs', w2]
  · simp [State.targetHop, hfs', w3]
  · simp [State.isTarget, hfs']
  · simp [State.isInRound, hfs']

/-- Querying never fails: after any history of well-formed rounds (the empty history = a fresh
state, first ttl > 1, nothing answered … included) `hops`, `target_hop`, `is_target`, `is_in_round`,
`round`, `round_count` return normally for the default flow. -/
theorem getters_never_panic (cfg : Agg.Cfg) (hist : List Round) (hwf : ∀ r ∈ hist, RoundWF r) :
    ∃ st, State.run (State.new (F := F) cfg) hist = .ok st ∧
      (∃ hs, st.hops = .ok hs) ∧ (∃ hs, st.hopsForFlow 0 = .ok hs) ∧ (∃ h, st.targetHop 0 = .ok h) ∧
      (∀ hop, ∃ b, st.isTarget hop 0 = .ok b) ∧ (∀ hop, ∃ b, st.isInRound hop 0 = .ok b) ∧
      (∃ r, st.round 0 = .ok r) ∧ st.roundCount 0 = .ok hist.length := by
  obtain ⟨st, fs, h1, h3, hR⟩ := default_flow_reached (F := F) cfg hist hwf
  obtain ⟨a, b, c, d⟩ := getters_of_reached h3 hR hwf
  have h3' := flowR_of_lookup h3
  exact ⟨st, h1, a, a, b, c, d, ⟨fs.round, by simp [State.round, h3']⟩, by simp [State.roundCount, h3', hR.roundCount]⟩

/-- … and for every flow that exists (any registered flow id): its state is the fold of well-formed
rounds (C15), so the same getters return normally. -/
theorem flow_getters_never_panic (cfg : Agg.Cfg) (hist : List Round) (hwf : ∀ r ∈ hist, RoundWF r) :
    ∃ st, State.run (State.new (F := F) cfg) hist = .ok st ∧
      ∀ id fs, lookupFlow st.flows id = some fs →
        (∃ hs, st.hopsForFlow id = .ok hs) ∧ (∃ h, st.targetHop id = .ok h) ∧
        (∀ hop, ∃ b, st.isTarget hop id = .ok b) ∧ (∀ hop, ∃ b, st.isInRound hop id = .ok b) := by
  obtain ⟨st, h1, hst⟩ := stored_flow_reached (F := F) cfg hist hwf
  refine ⟨st, h1, fun id fs hfs => ?_⟩
  obtain ⟨rs, hrs, hR⟩ := hst id fs hfs
  exact getters_of_reached hfs hR hrs

/-- The hop list is exactly the window: as many hops as `windowTtls hist` has ttls (the gap-free
run `lowest probed ttl … greatest path length`), the `k`-th hop being the hop of the `k`-th ttl `t`
of the window: its statistics are the re-aggregation of the outcomes of ttl `t` (C05), and if ttl
`t` was ever probed it carries `ttl = t`. -/
theorem hops_is_window (cfg : Agg.Cfg) (hist : List Round) (hwf : ∀ r ∈ hist, RoundWF r) :
    ∃ st hs, State.run (State.new (F := F) cfg) hist = .ok st ∧ st.hops = .ok hs ∧
      hs.length = (windowTtls hist).length ∧
      ∀ (k t : Nat), (windowTtls hist)[k]? = some t →
        t = lowestTtl hist + k ∧ 1 ≤ t ∧ t ≤ highestTtl hist ∧ t ≤ 254 ∧
        ∃ h, hs[k]? = some h ∧ statsOf h = reagg cfg.maxSamples (outcomes t hist) ∧
          (outcomes t hist ≠ [] → h.ttl = t) ∧ (outcomes t hist = [] → h.ttl = 0) := by
  obtain ⟨st, fs, h1, h3, hR⟩ := default_flow_reached (F := F) cfg hist hwf
  obtain ⟨hs, w2, w4, w5⟩ := hR.hopsR hwf
  refine ⟨st, hs, h1, by simp [State.hops, flowR_of_lookup h3, defaultFlowId, w2], w4, fun k t hk => ?_⟩
  obtain ⟨hlo, _, ht, hhi⟩ := getElem?_windowTtls.1 hk
  have hst := stats_fold (F := F) cfg.maxSamples (outcomes t hist)
  have httl := congrArg Stats.ttl hst
  simp only [statsOf] at httl
  refine ⟨ht, by omega, hhi, Nat.le_trans hhi (highestTtl_le hwf), _, w5 k t hk, hst, fun hne => ?_, fun he => ?_⟩
  · rw [httl]; exact reagg_ttl _ t _ (outcomes_ttl t hist) hne
  · rw [httl, he]; rfl

/-- the window is empty exactly when nothing was probed or no round reported a path length;
otherwise it is the run `lowest, lowest + 1, …, highest` with `lowest ≤ highest ≤ 254` -/
theorem window_shape (hist : List Round) (hwf : ∀ r ∈ hist, RoundWF r) :
    (lowestTtl hist = 0 ∨ highestTtl hist = 0 → windowTtls hist = []) ∧
    (highestTtl hist ≠ 0 → lowestTtl hist ≠ 0 ∧ lowestTtl hist ≤ highestTtl hist ∧ highestTtl hist ≤ 254 ∧
      windowTtls hist = List.range' (lowestTtl hist) (highestTtl hist + 1 - lowestTtl hist)) := by
  refine ⟨fun h => by simp [windowTtls, h], fun h => ?_⟩
  obtain ⟨a, b⟩ := lowest_le_highest hwf h
  exact ⟨a, b, highestTtl_le hwf, by simp [windowTtls, a, h]⟩

/-- when nothing ever answers (every round reports path length 0) the hop list is empty -/
theorem silent_path_empty (cfg : Agg.Cfg) (hist : List Round) (hwf : ∀ r ∈ hist, RoundWF r)
    (hsilent : ∀ r ∈ hist, r.largestTtl = 0) :
    ∃ st, State.run (State.new (F := F) cfg) hist = .ok st ∧ st.hops = .ok [] := by
  obtain ⟨st, hs, h1, h2, h3, _⟩ := hops_is_window (F := F) cfg hist hwf
  have : highestTtl hist = 0 := Decidable.byContradiction fun h => by
    obtain ⟨r, hr, hrl⟩ := highestTtl_mem h
    exact h (hrl ▸ hsilent r hr)
  rw [(window_shape hist hwf).1 (.inr this)] at h3
  exact ⟨st, h1, by rw [h2, List.length_eq_zero_iff.1 h3]⟩

/-- The designated target hop is the hop at the latest round's path length `L` (when `L ≠ 0`; it
lies inside the window), `is_target` / `is_in_round` compare a hop's ttl with `L`. -/
theorem target_is_latest (cfg : Agg.Cfg) (hist : List Round) (hwf : ∀ r ∈ hist, RoundWF r) :
    ∃ st tgt, State.run (State.new (F := F) cfg) hist = .ok st ∧ st.targetHop 0 = .ok tgt ∧
      (∀ hop, st.isTarget hop 0 = .ok (decide (latestTtl hist = hop.ttl))) ∧
      (∀ hop, st.isInRound hop 0 = .ok (decide (hop.ttl ≤ latestTtl hist))) ∧
      (latestTtl hist ≠ 0 →
        statsOf tgt = reagg cfg.maxSamples (outcomes (latestTtl hist) hist) ∧
        lowestTtl hist ≤ latestTtl hist ∧ latestTtl hist ≤ highestTtl hist ∧
        ∃ hs, st.hops = .ok hs ∧ hs[latestTtl hist - lowestTtl hist]? = some tgt) := by
  obtain ⟨st, fs, h1, h3, hR⟩ := default_flow_reached (F := F) cfg hist hwf
  obtain ⟨hs, w2, _, w5⟩ := hR.hopsR hwf
  have h3' := flowR_of_lookup h3
  have w3 := hR.targetHopR hwf
  refine ⟨st, _, h1, by simp only [State.targetHop, h3', bind, R.bind]; exact w3, ?_, ?_, fun hL => ?_⟩
  · intro hop; simp [State.isTarget, h3', FlowState.isTarget, hR.latest]
  · intro hop; simp [State.isInRound, h3', FlowState.isInRound, hR.latest]
  · obtain ⟨r, hr, hrl⟩ := latestTtl_mem hL
    obtain ⟨hlo0, hlo, hhi⟩ := window_of_mem hwf hr (hrl ▸ hL)
    rw [hrl] at hlo hhi
    simp only [hL, if_false]
    refine ⟨stats_fold _ _, hlo, hhi, hs, by simp [State.hops, h3', defaultFlowId, w2], ?_⟩
    exact w5 _ _ (getElem?_windowTtls.2 ⟨hlo0, by omega, by omega, hhi⟩)

def pr (ttl : Nat) : Probe :=
  { seq := 33000, ident := 1, srcPort := 5000, destPort := 33434, ttl := ttl, round := 0, sent := 0, flags := 0 }

/-- a probe with ttl 0 panics (`usize::from(ttl) - 1`) -/
theorem ttl_zero_panics (ms : Nat) :
    (FlowState.new (F := F) ms).applyRound { probes := [.awaited (pr 0)], largestTtl := 0, reason := .roundTimeLimitExceeded }
      = .panic := by
  simp [FlowState.applyRound, Updater.loop, Updater.updateForProbe, pr, modifyHop_zero, isForwardLoss]

/-- a probe with ttl 255 panics (`hops[254]` of 254 hops) -/
theorem ttl_255_panics (ms : Nat) :
    (FlowState.new (F := F) ms).applyRound { probes := [.failed (pr 255)], largestTtl := 0, reason := .roundTimeLimitExceeded }
      = .panic := by
  have hbig : ∀ (fs : FlowState F) f, fs.hops.length = 254 → fs.modifyHop 255 f = .panic :=
    fun fs f h => modifyHop_big fs 255 f (by omega)
  simp only [FlowState.applyRound, Updater.loop, Updater.updateForProbe, pr, bind, R.bind]
  rw [hbig _ _ (by simp [FlowState.new_len, updateLowestTtl_eq])]

omit [Num F] in
/-- a path length below the lowest probed ttl makes `hops()` panic (slice `[lowest-1 .. highest]`),
and so does a path length of 255 (slice end beyond the 254 hops) -/
theorem bad_window_panics (fs : FlowState F) (hlen : fs.hops.length = 254) :
    (fs.lowestTtl = 5 → fs.highestTtl = 3 → fs.hopsR = .panic) ∧
    (fs.lowestTtl = 1 → fs.highestTtl = 255 → fs.hopsR = .panic) := by
  constructor <;> intro h1 h2 <;> simp [FlowState.hopsR, h1, h2, hlen]

/-- the getters index the flow map: an unknown flow id panics -/
theorem unknown_flow_panics (cfg : Agg.Cfg) :
    (State.new (F := F) cfg).hopsForFlow 1 = .panic ∧ (State.new (F := F) cfg).targetHop 1 = .panic := by
  simp [State.hopsForFlow, State.targetHop, State.flowR, State.new, lookupFlow, defaultFlowId]

def cp (ttl round host : Nat) : Slot :=
  .complete { probe := { pr ttl with round := round }, host := host, received := 900 + ttl,
              kind := .timeExceeded 0, tos := none, expCk := none, actCk := none, ext := none }
/-- first ttl 4; the path grows from 5 to 7 and the target stops answering in the last round -/
def exHist : List Round :=
  [ { probes := [cp 4 0 10, cp 5 0 7], largestTtl := 5, reason := .targetFound },
    { probes := [cp 4 1 10, .awaited { pr 5 with round := 1 }, cp 6 1 12, cp 7 1 7], largestTtl := 7, reason := .targetFound },
    { probes := [.awaited { pr 4 with round := 2 }, .skipped, .awaited { pr 5 with round := 2 }], largestTtl := 0,
      reason := .roundTimeLimitExceeded } ]

example : ∀ r ∈ exHist, RoundWF r := by decide
example : windowTtls exHist = [4, 5, 6, 7] := by decide
example : latestTtl exHist = 0 ∧ highestTtl exHist = 7 ∧ lowestTtl exHist = 4 := by decide
-- the fresh state and a history in which nothing ever answered: empty window
example : windowTtls [] = [] := by decide
example : windowTtls [exHist[2]] = [] := by decide
-- the malformed rounds of the witnesses are indeed outside `RoundWF`
example : ¬ RoundWF { probes := [.awaited (pr 0)], largestTtl := 0, reason := .roundTimeLimitExceeded } := by decide
example : ¬ RoundWF { probes := [.failed (pr 255)], largestTtl := 0, reason := .roundTimeLimitExceeded } := by decide
example : ¬ RoundWF { probes := [.awaited (pr 5)], largestTtl := 3, reason := .roundTimeLimitExceeded } := by decide
example : ¬ RoundWF { probes := [.awaited (pr 1)], largestTtl := 255, reason := .roundTimeLimitExceeded } := by decide

end TV.Props.C10

#print axioms TV.Props.C10.default_flow
#print axioms TV.Props.C10.getters_never_panic
#print axioms TV.Props.C10.flow_getters_never_panic
#print axioms TV.Props.C10.hops_is_window
#print axioms TV.Props.C10.window_shape
#print axioms TV.Props.C10.silent_path_empty
#print axioms TV.Props.C10.target_is_latest
#print axioms TV.Props.C10.ttl_zero_panics
#print axioms TV.Props.C10.ttl_255_panics
#print axioms TV.Props.C10.bad_window_panics
#print axioms TV.Props.C10.unknown_flow_panics
