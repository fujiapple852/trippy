import TrippyVerif.Lemmas.AggRun
/-!
# C15 on a path that never changes: one flow

If every round of a history reports, position by position, only addresses of one fixed path `P`
(hop at position `i` ↦ `P i`) — whatever is silent, lost, failed to send, or beyond the reported
length in each round — then all rounds are attributed to a single flow: the registry never holds
more than one flow, its entries are addresses of `P`, and no second identifier is ever issued.

This is the theorem behind the stack oracle `c15-stack-stable-path-flows`, which found defect F22:
before fix `eebeff3` a probe that failed to send took no position (`C15.flow_positions_before_fix`),
so a round on the path `[a, b, c]` could report `c` at position 2 — the hypothesis `OnPath` fails for
that round, and a second flow appeared.  With positions = probed hops
(`C15.flow_positions_are_probed_hops`) the rounds of a stable path satisfy `OnPath`.
-/
namespace TV.Props.C15Stable
open TV.Strat TV.Agg TV.Reagg

def OnPathFrom (P : Nat → Nat) (k : Nat) (f : Flow) : Prop :=
  ∀ i a, f[i]? = some (FlowEntry.known a) → a = P (k + i)

abbrev OnPath (P : Nat → Nat) (f : Flow) : Prop := OnPathFrom P 0 f

theorem agree_of_onPath {P : Nat → Nat} {f g : Flow} (hf : OnPath P f) (hg : OnPath P g) : Flow.agree f g := by
  intro i a b ha hb
  rw [hf i a ha, hg i b hb]

theorem merge_onPathFrom (P : Nat → Nat) : ∀ (s f : Flow) (k : Nat),
    OnPathFrom P k s → OnPathFrom P k f → OnPathFrom P k (Flow.merge s f) := by
  intro s f k hs hf i a h
  -- a known entry of the merge is that entry of `f` or of `s`
  rw [Flow.getElem?_merge] at h
  split at h
  · next hfi => exact hf i a (hfi.trans h)
  · exact hf i a h
  · exact hs i a h

def Stable (P : Nat → Nat) (reg : Registry) : Prop :=
  reg.flows.length ≤ 1 ∧ ∀ x ∈ reg.flows, OnPath P x.1

theorem regStep_stable (P : Nat → Nat) (maxFlows : Nat) (reg : Registry) (f : Flow)
    (hs : Stable P reg) (hf : OnPath P f) :
    Stable P (regStep maxFlows reg f).1 := by
  obtain ⟨hlen, hon⟩ := hs
  cases hfl : reg.flows with
  | nil =>
    have hno : ∀ x ∈ reg.flows, ¬ Flow.agree x.1 f := by rw [hfl]; simp
    rw [regStep_none maxFlows reg f hno]
    split
    · simpa [Stable, hfl] using hf
    · exact ⟨hlen, hon⟩
  | cons e rest =>
    -- the one stored flow lies on the path, so it agrees with `f` and grows by a merge with it: no new flow
    have hrest : rest = [] := by
      have h1 : (e :: rest).length ≤ 1 := hfl ▸ hlen
      exact List.eq_nil_of_length_eq_zero (by simpa using h1)
    subst hrest
    have he : OnPath P e.1 := hon e (by rw [hfl]; simp)
    rw [regStep_first maxFlows reg f [] e [] (by rw [hfl]; rfl) (by simp) (agree_of_onPath he hf)]
    refine ⟨by simp, fun x hx => ?_⟩
    obtain rfl : x = (e.1.grow f, e.2) := by simpa using hx
    rcases Flow.grow_eq e.1 f with hg | hg
    · rw [hg]
      exact he
    · rw [hg]
      exact merge_onPathFrom P e.1 f 0 he hf

/-- **C15, stable path.**  After any history of well-formed rounds whose flows lie on one path, the
registry holds at most one flow (identifier 1), and it lies on the path. -/
theorem stable_path_one_flow (P : Nat → Nat) (maxFlows : Nat) : ∀ (hist : List Round) (reg : Registry),
    RegInv reg → reg.flows.length ≤ maxFlows → Stable P reg →
    (∀ r ∈ hist, OnPath P (roundFlow r)) →
    Stable P (regRun maxFlows reg hist) := by
  intro hist
  induction hist with
  | nil => intro reg _ _ hs _; exact hs
  | cons r rs ih =>
    intro reg hi hb hs hr
    simp only [regRun]
    have hs' := regStep_spec maxFlows reg (roundFlow r) hi hb
    exact ih _ hs'.inv hs'.bound (regStep_stable P maxFlows reg (roundFlow r) hs (hr r (by simp)))
      (fun x hx => hr x (by simp [hx]))

/-- from a fresh state: the `State` after the history has at most one flow besides the default one -/
theorem fresh_state_one_flow {F : Type} [Num F] (P : Nat → Nat) (cfg : Agg.Cfg) (hist : List Round)
    (hwf : ∀ r ∈ hist, RoundWF r) (hon : ∀ r ∈ hist, OnPath P (roundFlow r)) :
    ∃ st, State.run (State.new (F := F) cfg) hist = .ok st ∧ st.registry.flows.length ≤ 1 := by
  obtain ⟨st, h1, h, _⟩ := State.run_spec_new (F := F) cfg hist hwf
  refine ⟨st, h1, ?_⟩
  rw [h.registry]
  exact (stable_path_one_flow P _ hist _ RegInv_new (by simp [Registry.new])
    ⟨by simp [Registry.new], by simp [Registry.new]⟩ hon).1

/-- non-vacuity: the round `[a, ?, c]` (the ttl 2 probe failed to send) lies on the path `a, b, c` with the
fixed code, while the flow `[a, c]` the old code recorded does not -/
example : OnPath (fun i => i + 1) [FlowEntry.known 1, .unknown, .known 3] ∧
    ¬ OnPath (fun i => i + 1) [FlowEntry.known 1, .known 3] := by
  constructor
  · intro i a h
    match i with
    | 0 => simp at h ⊢; omega
    | 1 => simp at h
    | 2 => simp at h ⊢; omega
    | i + 3 => simp at h
  · intro h
    have := h 1 3 (by simp)
    simp at this

end TV.Props.C15Stable

#print axioms TV.Props.C15Stable.merge_onPathFrom
#print axioms TV.Props.C15Stable.regStep_stable
#print axioms TV.Props.C15Stable.stable_path_one_flow
#print axioms TV.Props.C15Stable.fresh_state_one_flow
