import TrippyVerif.Props.C06
import TrippyVerif.Props.C09
import TrippyVerif.Props.C10
import TrippyVerif.Props.C02
/-!
# Composition: strategy → aggregator

The aggregator theorems (C05, C10, C15, C19) hold for histories of *well-formed* rounds
(`Reagg.RoundWF`: probe TTLs in [1,254], strictly ascending in probe order, `largest_ttl` zero or
between the round's first TTL and 254).  This file proves that every round the tracing state machine
publishes is one — for every builder-accepted configuration with
`first_ttl ≤ max_ttl` and `max_inflight ≥ 1` (what the CLI enforces), every environment (send
outcomes, waits, responses — genuine or not) and unboundedly many rounds — and composes the two
halves: whatever the network does, the state fed by a run of the tracer never panics on a query and
its hop window has the shape C10 states.
-/
namespace TV.Props.Compose
open TV.Strat TV.Reagg

/-- **Every published round is well-formed** — whatever the network does. -/
theorem published_round_wf {c : Cfg} (hc : CfgOk c) (hfm : c.firstTtl ≤ c.maxTtl) (hinf : 1 ≤ c.maxInflight)
    {s s' : TS} (hs : Reach c s) {e : IterEnv} {o : IterOut} (h : iter c s e = .ok (s', o))
    (r : Round) (hr : o.published = some r) : RoundWF r := by
  obtain ⟨g, hw⟩ := reach_hist hc hs
  obtain ⟨s1, hk⟩ := iter_ok hc (reach_inv hc hs) h
  obtain rfl := hk.published hr
  refine roundOf_wf hc hk.inv2 (hw.atCheck hk) fun hnil => ?_
  -- the first iteration of a round hands its first-ttl probe to send_probe
  obtain ⟨h0, hs0⟩ := List.append_eq_nil_iff.mp hnil
  have hfirst := C06.first_probe_sent hc (hw.roundStart hk.inv h0) hfm hinf e.sends
  rw [hk.send] at hfirst
  exact hfirst.1 hs0

/-- the rounds published by a run, oldest first -/
def publishedRounds (outs : List IterOut) : List Round := outs.filterMap (·.published)

theorem publishedCount_eq (outs : List IterOut) :
    C09.publishedCount outs = (publishedRounds outs).length := by
  induction outs with
  | nil => rfl
  | cons o os ih =>
    simp only [C09.publishedCount, publishedRounds, List.filter_cons, List.filterMap_cons] at ih ⊢
    cases o.published <;> simp [ih]

theorem run_rounds_wf {c : Cfg} (hc : CfgOk c) (hfm : c.firstTtl ≤ c.maxTtl) (hinf : 1 ≤ c.maxInflight) :
    ∀ (envs : List IterEnv) {s : TS}, Reach c s →
      ∀ r ∈ publishedRounds (run c s envs).outs, RoundWF r := by
  intro envs s hs r hr
  obtain ⟨o, ho, hpub⟩ := List.mem_filterMap.mp hr
  obtain ⟨s0, s1, e, hs0, hit⟩ := (run_steps envs hs).2 o ho
  exact published_round_wf hc hfm hinf hs0 hit r hpub

/-- **End to end (strategy ∘ aggregator), C10.**  For every configuration the builder and CLI accept,
every start time and every environment — any send outcomes, waits and responses, genuine or forged,
for any number of iterations — feeding the rounds the tracer publishes to a fresh aggregator state
never fails, and afterwards no query of the hop table panics. -/
theorem tracer_state_never_panics {F : Type} [Agg.Num F] {c : Cfg} (hc : CfgOk c) (hfm : c.firstTtl ≤ c.maxTtl)
    (hinf : 1 ≤ c.maxInflight) (t0 : Nat) (envs : List IterEnv) (acfg : Agg.Cfg) :
    let hist := publishedRounds (run c (init c t0) envs).outs
    ∃ st, Agg.State.run (Agg.State.new (F := F) acfg) hist = .ok st ∧
      (∃ hs, st.hops = .ok hs) ∧ (∃ hs, st.hopsForFlow 0 = .ok hs) ∧ (∃ h, st.targetHop 0 = .ok h) ∧
      (∀ hop, ∃ b, st.isTarget hop 0 = .ok b) ∧ (∀ hop, ∃ b, st.isInRound hop 0 = .ok b) ∧
      (∃ r, st.round 0 = .ok r) ∧ st.roundCount 0 = .ok hist.length := by
  intro hist
  exact C10.getters_never_panic (F := F) acfg hist (run_rounds_wf hc hfm hinf envs (Reach.init t0))

/-- **End to end (strategy ∘ aggregator), C05 / C01.**  Whatever the network does, after any run of
the tracer every hop of the default flow holds exactly the re-aggregation (counts, last / best /
worst / total, samples, per-address counts, loss classification …) of the outcomes the tracer
published for that TTL — and each of those outcomes is the one the history of sends and genuine
responses dictates (`C01_strategy`). -/
theorem tracer_hops_are_reaggregation {F : Type} [Agg.Num F] {c : Cfg} (hc : CfgOk c) (hfm : c.firstTtl ≤ c.maxTtl)
    (hinf : 1 ≤ c.maxInflight) (t0 : Nat) (envs : List IterEnv) (acfg : Agg.Cfg) :
    let hist := publishedRounds (run c (init c t0) envs).outs
    ∃ st fs, Agg.State.run (Agg.State.new (F := F) acfg) hist = .ok st ∧ Agg.lookupFlow st.flows 0 = some fs ∧
      ∀ t, 1 ≤ t → t ≤ 254 →
        ∃ h, fs.hops[t - 1]? = some h ∧ statsOf h = reagg acfg.maxSamples (outcomes t hist) := by
  intro hist
  obtain ⟨st, fs, h1, h3, hR⟩ :=
    Agg.default_flow_reached (F := F) acfg hist (run_rounds_wf hc hfm hinf envs (Reach.init t0))
  exact ⟨st, fs, h1, h3, hR.stats⟩

/-- `accepted_response_completes` for any state with the invariant (the state between the send step
and the receive step of an iteration is such a state) -/
theorem accepted_completes_inv {c : Cfg} {s : TS} (hi : Inv c s) (r : Resp)
    (p : Probe) (hacc : Props.C02.Accepted c r p.seq) (haw : answered s p.seq = some p) (dt : Nat) :
    genuine c s r = some p ∧
    recvResponse c s dt (.resp r) = .ok (afterComplete (tick s dt) (strategyResp c r) p) ∧
    (afterComplete (tick s dt) (strategyResp c r) p).buffer[p.seq - s.roundSeq]? =
      some (.complete { probe := p, host := (strategyResp c r).addr,
                        received := (strategyResp c r).received, kind := (strategyResp c r).kind,
                        tos := (strategyResp c r).tos, expCk := (strategyResp c r).expCk,
                        actCk := (strategyResp c r).actCk, ext := (strategyResp c r).ext }) ∧
    ∀ k, k ≠ p.seq - s.roundSeq →
      (afterComplete (tick s dt) (strategyResp c r) p).buffer[k]? = s.buffer[k]? := by
  obtain ⟨hv, ht, hseq⟩ := hacc
  have hgen : genuine c s r = some p := genuine_of_answered hi hv ht (hseq.symm ▸ haw)
  have hlen : p.seq - s.roundSeq < s.buffer.length :=
    (List.getElem?_eq_some_iff.mp (answered_spec hi haw).slot).1
  refine ⟨hgen, ?_, ?_, ?_⟩
  · rw [recvResponse_resp hi]
    simp only [afterRecv, hgen]
  · rw [afterComplete_buffer, hseq]
    exact List.getElem?_set_self hlen
  · intro k hk
    rw [afterComplete_buffer, hseq]
    exact List.getElem?_set_ne (fun e => hk e.symm)

/-- **The link between C02 and C01/C03.**  `C02.Accepted c r seq` is the conclusion of every C02
theorem (the response decoded from a conforming quotation of the bytes dispatched for probe `p`
validates, carries an accepted trace identifier and recovers `p`'s sequence).  If `p` is still
awaiting its first response in the round in progress, receiving such a response completes exactly
`p`'s slot with the response's data — responder, receive time, kind, TOS, checksums, extensions —
and nothing else in the buffer changes. -/
theorem accepted_response_completes {c : Cfg} (hc : CfgOk c) {s : TS} (hs : Reach c s) (r : Resp)
    (p : Probe) (hacc : Props.C02.Accepted c r p.seq) (haw : answered s p.seq = some p) (dt : Nat) :
    genuine c s r = some p ∧
    recvResponse c s dt (.resp r) = .ok (afterComplete (tick s dt) (strategyResp c r) p) ∧
    (afterComplete (tick s dt) (strategyResp c r) p).buffer[p.seq - s.roundSeq]? =
      some (.complete { probe := p, host := (strategyResp c r).addr,
                        received := (strategyResp c r).received, kind := (strategyResp c r).kind,
                        tos := (strategyResp c r).tos, expCk := (strategyResp c r).expCk,
                        actCk := (strategyResp c r).actCk, ext := (strategyResp c r).ext }) ∧
    ∀ k, k ≠ p.seq - s.roundSeq →
      (afterComplete (tick s dt) (strategyResp c r) p).buffer[k]? = s.buffer[k]? :=
  accepted_completes_inv (reach_inv hc hs) r p hacc haw dt

end TV.Props.Compose

#print axioms TV.Props.Compose.published_round_wf
#print axioms TV.Props.Compose.run_rounds_wf
#print axioms TV.Props.Compose.tracer_state_never_panics
#print axioms TV.Props.Compose.tracer_hops_are_reaggregation
#print axioms TV.Props.Compose.accepted_response_completes
