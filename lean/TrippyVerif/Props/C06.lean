import TrippyVerif.Lemmas.Compose
/-!
# C06 — probe scheduling discipline: TTL order, limits and in-flight window

For every builder-accepted configuration (`CfgOk`: 1 ≤ first-ttl ≤ 254, max-ttl ≤ 254, …), every
reachable state (any environment: arrival orders, timings, send failures, any number of rounds)
and every loop iteration.
-/
namespace TV.Props.C06
open TV.Strat

/-- Whenever an iteration hands probes to `send_probe`: the target has not answered in this
round, the TTL is the state's next TTL and does not exceed max-ttl, does not exceed the target's
distance when that is known, and otherwise lies at most max-inflight beyond the farthest hop that
has answered in this round (beyond first-ttl − 1 if none has).  All probes of the iteration (a
TCP probe re-issued after address-in-use) carry that same TTL and the current round id. -/
theorem send_discipline {c : Cfg} (hc : CfgOk c) {s s' : TS} (hs : Reach c s) {e : IterEnv} {o : IterOut}
    (h : iter c s e = .ok (s', o)) (hne : o.sent ≠ []) :
    s.targetFound = false ∧ c.firstTtl ≤ s.ttl ∧ s.ttl ≤ c.maxTtl ∧
    (∀ t, s.targetTtl = some t → s.ttl ≤ t) ∧
    (s.targetTtl = none → s.ttl - s.maxRecvTtl.getD (c.firstTtl - 1) ≤ c.maxInflight) ∧
    (∀ x ∈ o.sent, x.1.ttl = s.ttl ∧ x.1.round = s.round) := by
  have hi := reach_inv hc hs
  obtain ⟨s1, hk⟩ := iter_ok hc hi h
  obtain ⟨hnf, hmax, htgt, hinfl⟩ := canSend_iff.mp (hk.sent.guard.mp hne)
  exact ⟨hnf, hi.ttl_ge, hmax, htgt, hinfl, fun x hx => ⟨(hk.sent.each x hx).1, (hk.sent.each x hx).2.1⟩⟩

/-- TTLs advance by exactly one per sending iteration, never otherwise; a new round restarts at
first-ttl.  Hence within a round the TTLs sent are first-ttl, first-ttl+1, … without gaps or
repeats. -/
theorem ttl_progression {c : Cfg} (hc : CfgOk c) {s s' : TS} (hs : Reach c s) {e : IterEnv} {o : IterOut}
    (h : iter c s e = .ok (s', o)) :
    (o.published = none → s'.round = s.round ∧ s'.ttl = if o.sent = [] then s.ttl else s.ttl + 1) ∧
    (o.published ≠ none → s'.round = s.round + 1 ∧ s'.ttl = c.firstTtl) := by
  obtain ⟨s1, hk⟩ := iter_ok hc (reach_inv hc hs) h
  rcases hk.round with ⟨_, rfl, hp⟩ | ⟨_, rfl, hp⟩
  · exact ⟨fun _ => ⟨hk.check.round, hk.check.ttl⟩, fun hn => absurd hp hn⟩
  · refine ⟨fun hn => ?_, fun _ => ⟨by rw [afterAdvance_round, hk.check.round], afterAdvance_ttl c _⟩⟩
    rw [hn] at hp
    cases hp

/-- a round starts with TTL first-ttl: nothing has been allocated ⇒ the next TTL is first-ttl -/
theorem round_starts_at_first_ttl {c : Cfg} (hc : CfgOk c) {s : TS} (hs : Reach c s)
    (h0 : s.sequence = s.roundSeq) : s.ttl = c.firstTtl := by
  have hi := reach_inv hc hs
  have h1 := hi.count_ge
  have h2 := hi.ttl_ge
  simp [TS.count, h0] at h1
  omega

/-- every published round is followed by a round-start state -/
theorem roundStart_after_publish {c : Cfg} (hc : CfgOk c) {s s' : TS} (hs : Reach c s) {e : IterEnv}
    {o : IterOut} (h : iter c s e = .ok (s', o)) (hp : o.published ≠ none) : RoundStart c s' := by
  obtain ⟨s1, hk⟩ := iter_ok hc (reach_inv hc hs) h
  have hi2 := hk.inv2
  rcases hk.round with ⟨_, _, hn⟩ | ⟨_, rfl, _⟩
  · exact absurd hn hp
  · exact ⟨inv_afterAdvance hc hi2, afterAdvance_ttl c _, afterAdvance_targetFound c _, afterAdvance_maxRecvTtl c _⟩

/-- **Liveness.** The first iteration of every round hands the first-ttl probe to `send_probe`
(or ends the run with a send error) — for every first-ttl ≤ max-ttl and max-inflight ≥ 1. -/
theorem first_probe_sent {c : Cfg} (hc : CfgOk c) {s : TS} (hr : RoundStart c s)
    (hfm : c.firstTtl ≤ c.maxTtl) (hinf : 1 ≤ c.maxInflight) (sends : List SendOutcome) :
    match sendRequest c s sends with
    | .ok (_, lg) => lg ≠ [] ∧ ∀ x ∈ lg, x.1.ttl = c.firstTtl
    | .err _ => True
    | .panic => False := by
  have hcan : canSend c s = true := by
    rw [canSend_iff, hr.ttl, hr.noRecv]
    refine ⟨hr.notFound, hfm, fun t ht => (hr.inv.tgt t ht).1, fun _ => ?_⟩
    have hf := hc.first_ge
    simp only [Option.getD_none]
    omega
  obtain ⟨hnp, hsp⟩ := sendRequest_spec hc hr.inv sends
  cases hsr : sendRequest c s sends with
  | panic => exact absurd hsr hnp
  | err e => trivial
  | ok v =>
    obtain ⟨s1, lg⟩ := v
    have hso := (hsp s1 lg hsr).2
    exact ⟨hso.guard.mpr hcan, fun x hx => by rw [(hso.each x hx).1, hr.ttl]⟩

/-- `target_found` is raised exactly by a genuine response from the target, within the round -/
theorem target_found_iff {c : Cfg} (hc : CfgOk c) {s : TS} (hs : Reach c s) (dt : Nat) (r : Resp) (s2 : TS)
    (h : recvResponse c s dt (.resp r) = .ok s2) :
    s2.targetFound = (s.targetFound || ((genuine c s r).isSome && (strategyResp c r).isTarget)) := by
  rw [recvResponse_resp (reach_inv hc hs)] at h
  cases h
  cases hg : genuine c s r with
  | none => simp [afterRecv, hg, tick]
  | some p => simp [afterRecv, hg, tick]

/-- reachable states together with the log of `send_probe` calls of the round in progress -/
inductive ReachLog (c : Cfg) : TS → List (Probe × SendOutcome) → Prop
  | init (t0 : Nat) : ReachLog c (init c t0) []
  | step {s s' : TS} {log : List (Probe × SendOutcome)} (e : IterEnv) (o : IterOut) :
      ReachLog c s log → iter c s e = .ok (s', o) →
      ReachLog c s' (if o.published.isSome then [] else log ++ o.sent)

theorem ReachLog.reach {c : Cfg} {s : TS} {log} (h : ReachLog c s log) : Reach c s := by
  induction h with
  | init t0 => exact .init t0
  | step e o _ hit ih => exact .step e o ih hit

theorem ReachLog.hist {c : Cfg} (hc : CfgOk c) {s : TS} {log : List (Probe × SendOutcome)}
    (h : ReachLog c s log) : ∃ g, Hist c s g ∧ g.sent = log := by
  induction h with
  | init t0 => exact ⟨{}, hist_init c t0, rfl⟩
  | @step s s' log e o hr hit ih =>
    obtain ⟨g, hw, rfl⟩ := ih
    obtain ⟨s1, hk⟩ := iter_ok hc (reach_inv hc hr.reach) hit
    refine ⟨_, hw.step hk, ?_⟩
    split <;> rfl

/-- **TTL order of a whole round.**  In every reachable state the `send_probe` calls of the round in
progress carry the TTLs first-ttl, first-ttl+1, … in order, without gaps or repeats, except that
the call following an address-in-use outcome repeats the TTL (the re-issued probe); and the next
TTL to be used is the state's. -/
theorem round_ttl_trace {c : Cfg} (hc : CfgOk c) {s : TS} {log : List (Probe × SendOutcome)}
    (h : ReachLog c s log) : ttlsFrom c.firstTtl log = some s.ttl := by
  obtain ⟨g, hw, rfl⟩ := h.hist hc
  exact hw.trace

/-- the complete log of every published round is such a trace, and it holds exactly one entry per
entry of the published round -/
theorem published_round_ttl_trace {c : Cfg} (hc : CfgOk c) {s s' : TS} {log : List (Probe × SendOutcome)}
    (hr : ReachLog c s log) {e : IterEnv} {o : IterOut} (hit : iter c s e = .ok (s', o)) :
    ∃ t, ttlsFrom c.firstTtl (log ++ o.sent) = some t ∧ t ≤ 255 := by
  obtain ⟨g, hw, rfl⟩ := hr.hist hc
  obtain ⟨s1, hk⟩ := iter_ok hc (reach_inv hc hr.reach) hit
  exact ⟨_, (hw.atCheck hk).trace, hk.inv2.ttl_le⟩

/-- what the trace predicate means, spelled out on an example: TTLs 1, 2, 2 (re-issue), 3 -/
example : ttlsFrom 1 [(⟨0, 0, 0, 0, 1, 0, 0, 0⟩, .ok), (⟨1, 0, 0, 0, 2, 0, 0, 0⟩, .addrInUse), (⟨2, 0, 0, 0, 2, 0, 0, 0⟩, .ok),
    (⟨3, 0, 0, 0, 3, 0, 0, 0⟩, .probeFailed)] = some 4 := by decide
/-- a gap and a repeat are both rejected -/
example : ttlsFrom 1 [(⟨0, 0, 0, 0, 1, 0, 0, 0⟩, .ok), (⟨1, 0, 0, 0, 3, 0, 0, 0⟩, .ok)] = none := by decide
example : ttlsFrom 1 [(⟨0, 0, 0, 0, 1, 0, 0, 0⟩, .ok), (⟨1, 0, 0, 0, 1, 0, 0, 0⟩, .ok)] = none := by decide

end TV.Props.C06

#print axioms TV.Props.C06.send_discipline
#print axioms TV.Props.C06.ttl_progression
#print axioms TV.Props.C06.round_starts_at_first_ttl
#print axioms TV.Props.C06.roundStart_after_publish
#print axioms TV.Props.C06.first_probe_sent
#print axioms TV.Props.C06.target_found_iff
#print axioms TV.Props.C06.round_ttl_trace
#print axioms TV.Props.C06.published_round_ttl_trace
