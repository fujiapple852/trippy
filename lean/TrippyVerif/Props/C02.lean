import TrippyVerif.Props.C11
import TrippyVerif.Lemmas.WireRecv
/-!
# C02 — a probe's identity survives the wire: encode, quote, decode, match

"For every supported configuration and every probe the tracer can emit, if a router or the target
returns that probe quoted in any standards-conforming ICMP Time Exceeded, Destination Unreachable
or Echo Reply (any quotation length the ICMP standards allow - from IP header plus 8 octets upward
for IPv4, as much of the datagram as fits for IPv6 - with or without RFC 4884 extensions, and with
the in-transit changes routers make to TTL, header checksum and TOS) or answers the TCP handshake,
the tracer recognises it as the response to exactly that probe.  A quotation of a datagram this
tracer did not send (other destination, other ports, other protocol, missing Dublin marker) is
never accepted."

* code model: `TV.Wire.dispatch` / `TV.Wire.recvIcmp` / `TV.Wire.recvTcp` (`Model/Wire.lean`),
  `TV.Strat.validate` / `strategyResp` / `checkTraceId` (`Model/Strategy.lean`); network model:
  `TV.Quote` (`Spec/Quote.lean`): `wireDatagram` (what is on the wire; kernel-built headers are a
  modelled assumption with free octets `KernelFill`), `quote4` / `quote6` (header with TOS / total
  length / TTL / checksum resp. traffic class / hop limit rewritten + 8 + `n` octets, any `n`),
  `icmpMessage` (plain, RFC 4884 compliant, RFC 4884 legacy; any extension structure of ≥ 4 octets),
  `deliver` (any outer IPv4 header octets, any responder).
* **positive half, all cells** (symbolic in sequence, TTL, TOS, size, pattern, addresses, ports,
  quotation length, message embedding, extension parse mode, responder):
  `icmp_v4`, `udp_v4` (classic/Paris/Dublin × every port direction), `udp_v4_unprivileged`
  (classic), `tcp_v4`, `icmp_v6`, `udp_v6`, `udp_v6_unprivileged`, `tcp_v6`, `echo_reply` (both
  families), `tcp_handshake` (both families).  Each concludes
  `∃ r, recvIcmp … = ok (some r) ∧ r.addr = responder ∧ r.kind = … ∧ Accepted s (r.toStrat t) p.seq`,
  `Accepted` = `validate` ∧ trace-id check ∧ the recovered sequence is the probe's.
  The probe is any probe `emitted` by `Strat.probeData` (C11 `sequence_location`) with machine-
  valued fields (`ProbeOk`).  Each cell is `identified_v4` / `identified_v6` (the response
  `Identifies` the probe; no strategy involved) followed by `accepted_of_identifies`.
* side conditions that are *needed* (each stated where it applies):
  Dublin/IPv6: the sequence is inside the strategy's window and the quotation reaches the six
  marker octets (`6 ≤ n`); TCP/IPv6: the quotation contains the 20-octet TCP header (`12 ≤ n`) —
  `Ipv6::extract_tcp_packet` does not pad as the IPv4 code does.  A conforming ICMPv6 error quotes
  the whole probe (≤ 1024 octets fit the minimum MTU), so both hold for conforming routers.
  RFC 4884 bodies: `BodyOk` (extension structure ≥ 4 octets, length attribute fits its octet).
* **negative half**: `foreign_v4`, `foreign_v6` (other protocol ⇒ `ok none`; other destination or
  other fixed port ⇒ `validate = false`), `no_marker_v6`.
* message-level theorems `recv_error_v4` / `recv_error_v6`: what *any* quotation of *any* IPv4 /
  IPv6 datagram is parsed to (from `recvIcmp_error`, `protoResp_H4` / `protoResp_H6` of
  `Lemmas/WireRecv.lean`).
* nothing is partial.  Not modelled: outer IPv4 options on the received ICMP message (IHL 5
  assumed in `deliver`; C04 covers arbitrary IHL for robustness), quoted IPv4 options and IPv6
  extension headers (the tracer sends none).
-/
namespace TV.Props.C02
open TV.Wire TV.Quote TV.Rfc4884 TV.Props.C11

/-- an ICMP error message as a conforming router builds it: Time Exceeded with code 0 ("TTL
exceeded in transit") or Destination Unreachable with any code; any checksum / unused octets; the
quotation embedded plainly or per RFC 4884 -/
structure ErrMsg (v6 : Bool) where
  te : Bool
  h : IcmpHdr
  b : Body
  hty : h.type = if te then tyTimeExceeded v6 else tyDestUnreachable v6
  hcode : te = true → h.code = 0

def ErrMsg.kind {v6 : Bool} (e : ErrMsg v6) : Strat.RespKind :=
  if e.te then .timeExceeded 0 else .destUnreachable e.h.code.toNat

/-- **IPv4, message level.**  A Time Exceeded (code 0) or Destination Unreachable message —
plain, RFC 4884 compliant or legacy, extensions parsed or not — whose quotation is any
`quote4` of any IPv4 datagram without options (`IsDatagram4`, any addresses) is answered with the
parser's verdict on the quoted header and the first eight octets; the responder is the outer source
address. -/
theorem recv_error_v4 (c : ChanCfg) (hc : c.AddrOk) (hv : c.v6 = false) (te : Bool)
    (o : Outer4) (h : IcmpHdr) (responder src : Buf) (hr : responder.length = 4) (b : Body)
    (qsrc qdst : Buf) (hqs : qsrc.length = 4) (hqd : qdst.length = 4)
    (d : Buf) (i0 i1 pr a0 a1 a2 a3 a4 a5 a6 a7 : UInt8)
    (hd : IsDatagram4 qsrc qdst d i0 i1 pr a0 a1 a2 a3 a4 a5 a6 a7) (m : Mut4) (n : Nat)
    (hb : BodyOk false (quote4 m d n) b)
    (hty : h.type = if te then tyTimeExceeded false else tyDestUnreachable false)
    (hcode : te = true → h.code = 0) :
    ∃ exts, recvIcmp c (deliver c o responder (icmpMessage false h b (quote4 m d n))) src =
      mkResp (if te then .timeExceeded 0 else .destUnreachable h.code.toNat) responder exts <$>
        parse4 c m.tos i0 i1 pr qdst a0 a1 a2 a3 a4 a5 a6 a7 := by
  obtain ⟨tos, l0, l1, f0, f1, ttl, c0, c1, rest, rfl⟩ := hd
  rw [quote4_eq hqs hqd] at hb ⊢
  generalize hHd : ([0x45, m.tos, m.len0, m.len1, i0, i1, f0, f1, m.ttl, pr, m.ck0, m.ck1] ++
    qsrc ++ qdst : Buf) = H at hb ⊢
  obtain ⟨hH, hg, hdrop⟩ : H.length = 20 ∧
      (H.getD 0 0 = 0x45 ∧ H.getD 1 0 = m.tos ∧ H.getD 4 0 = i0 ∧ H.getD 5 0 = i1 ∧
        H.getD 9 0 = pr) ∧ H.drop 16 = qdst := by
    subst hHd
    exact ⟨by simp [hqs, hqd], ⟨rfl, rfl, rfl, rfl, rfl⟩, List.drop_left' (by simp [hqs])⟩
  rw [← hv] at hb hty
  obtain ⟨q', exts, hx, z, hz⟩ := recvIcmp_error c hc te o h responder src (by simp [hv, hr])
    (by simp [hv]) b _ hb hty hcode 28 (by omega)
  have hq' : q' = H ++ a0 :: a1 :: a2 :: a3 :: a4 :: a5 :: a6 :: a7 :: z := by
    rw [← hz, List.take_append, List.take_of_length_le (by omega), hH]
    simp
  refine ⟨exts, ?_⟩
  rw [hv] at hx
  rw [hx, hq', protoResp_H4 c hc hv hH hg.1, hg.2.1, hg.2.2.1, hg.2.2.2.1, hg.2.2.2.2, hdrop]

/-- **IPv6, message level.**  `j` further octets of the payload (beyond the first eight) are
quoted and end up in front of the parser. -/
theorem recv_error_v6 (c : ChanCfg) (hc : c.AddrOk) (hv : c.v6 = true) (te : Bool)
    (o : Outer4) (h : IcmpHdr) (responder : Buf) (hr : responder.length = 16) (b : Body)
    (qsrc qdst : Buf) (hqs : qsrc.length = 16) (hqd : qdst.length = 16)
    (d : Buf) (nh a0 a1 a2 a3 a4 a5 a6 a7 : UInt8) (rest : Buf)
    (hd : IsDatagram6 qsrc qdst d nh a0 a1 a2 a3 a4 a5 a6 a7 rest) (m : Mut6) (n j : Nat)
    (hj : j ≤ n ∧ j ≤ rest.length ∧ 48 + j ≤ 128)
    (hb : BodyOk c.v6 (quote6 m d n) b)
    (hty : h.type = if te then tyTimeExceeded c.v6 else tyDestUnreachable c.v6)
    (hcode : te = true → h.code = 0) :
    ∃ exts t6, recvIcmp c (deliver c o responder (icmpMessage c.v6 h b (quote6 m d n))) responder =
        mkResp (if te then .timeExceeded 0 else .destUnreachable h.code.toNat) responder exts <$>
          parse6 c m.tc.toNat nh qdst a0 a1 a2 a3 a4 a5 a6 a7 t6 ∧
      t6.take j = rest.take j ∧ j ≤ t6.length := by
  obtain ⟨b0, b1, b2, b3, p0, p1, hl, rfl, hpl⟩ := hd
  rw [quote6_eq hqs hqd] at hb ⊢
  generalize hHd : ([UInt8.ofNat (96 + m.tc.toNat / 16),
    UInt8.ofNat (m.tc.toNat % 16 * 16 + b1.toNat % 16), b2, b3, p0, p1, nh, m.hops] ++
    qsrc ++ qdst : Buf) = H at hb ⊢
  obtain ⟨hH, hg, hdrop⟩ : H.length = 40 ∧
      (H.getD 4 0 = p0 ∧ H.getD 5 0 = p1 ∧ H.getD 6 0 = nh ∧
        H.getD 0 0 = UInt8.ofNat (96 + m.tc.toNat / 16) ∧
        H.getD 1 0 = UInt8.ofNat (m.tc.toNat % 16 * 16 + b1.toNat % 16)) ∧ H.drop 24 = qdst := by
    subst hHd
    exact ⟨by simp [hqs, hqd], ⟨rfl, rfl, rfl, rfl, rfl⟩, List.drop_left' (by simp [hqs])⟩
  obtain ⟨q', exts, hx, z, hz⟩ := recvIcmp_error c hc te o h responder responder
    (by simp [hv, hr]) (fun _ => rfl) b _ hb hty hcode (48 + j) (by omega)
  have hq' : q' = H ++ a0 :: a1 :: a2 :: a3 :: a4 :: a5 :: a6 :: a7 :: (rest.take j ++ z) := by
    rw [← hz, List.take_append, List.take_of_length_le (by omega), hH,
      show 48 + j - 40 = j + 8 by omega]
    simp [List.take_take, Nat.min_eq_left hj.1]
  have hpl8 : 8 ≤ beN (H.getD 4 0) (H.getD 5 0) := by
    rw [hg.1, hg.2.1, hpl]
    omega
  have hx6 : (rest.take j).length = j := by
    rw [List.length_take, Nat.min_eq_left hj.2.1]
  obtain ⟨ht, hl⟩ := tail6_take H (rest.take j) z (by rw [hg.1, hg.2.1, hpl, hx6]; omega)
  rw [hx6] at ht hl
  refine ⟨exts, tail6 H (rest.take j ++ z), ?_, ht, hl⟩
  rw [hx, hq', protoResp_H6 c hv hH hpl8, hg.2.2.1, hg.2.2.2.1, hg.2.2.2.2,
    tc_roundtrip, hdrop]

/-- the protocol response carries what identifies probe `p` sent with configuration `c`: the fields
`Strategy::validate`, the trace-identifier check and `StrategyResponse::from` look at.  (Over IPv4
the identification is the kernel's unless the socket is raw; only Dublin reads it.) -/
def Identifies (c : ChanCfg) (p : Strat.Probe) : Strat.ProtoResp → Prop
  | .icmp id sq _ => c.proto = .icmp ∧ id = p.ident ∧ sq = p.seq
  | .udp ident dest sp dp _ _ act plen magic =>
    c.proto = .udp ∧ dest = addrNat c.dst ∧ sp = p.srcPort ∧ dp = p.destPort ∧
    (isParis p.flags = true → act = p.seq) ∧
    (c.v6 = false → isDublin p.flags = true → ident = p.ident) ∧
    (c.v6 = true → isParis p.flags = false → isDublin p.flags = true →
      magic = true ∧ (c.initialSeq + plen) % 65536 = p.seq)
  | .tcp dest sp dp _ => c.proto = .tcp ∧ dest = addrNat c.dst ∧ sp = p.srcPort ∧ dp = p.destPort

/-- `hun`: without a raw socket the flags have no effect on the datagram, so the probe must be a classic one -/
theorem identified_v4 (c : ChanCfg) (hc : c.AddrOk) (hv : c.v6 = false) (p : Strat.Probe)
    (hpr : ProbeOk p) (k : KernelFill) (d : Buf) (hd : wireDatagram c k p = some d)
    (hsz : c.proto ≠ .tcp → SizeOk c)
    (hun : c.proto = .udp → c.privileged = false →
      isParis p.flags = false ∧ isDublin p.flags = false)
    (hk : c.proto = .tcp → 16 ≤ k.tcpRest.length)
    (e : ErrMsg false) (o : Outer4) (responder src : Buf)
    (hr : responder.length = 4) (m : Mut4) (n : Nat) (hb : BodyOk false (quote4 m d n) e.b) :
    ∃ r, recvIcmp c (deliver c o responder (icmpMessage false e.h e.b (quote4 m d n))) src =
        .ok (some r) ∧ r.addr = responder ∧ r.kind = e.kind ∧ Identifies c p r.proto := by
  have h4 := addr4 c hc hv
  have no6 : ∀ {P : Prop}, c.v6 = true → P := fun h => absurd (hv.symm.trans h) (by simp)
  have key : ∀ {i0 i1 pr a0 a1 a2 a3 a4 a5 a6 a7},
      IsDatagram4 c.src c.dst d i0 i1 pr a0 a1 a2 a3 a4 a5 a6 a7 →
      (∃ pr', parse4 c m.tos i0 i1 pr c.dst a0 a1 a2 a3 a4 a5 a6 a7 = .ok (some pr') ∧
        Identifies c p pr') →
      ∃ r, recvIcmp c (deliver c o responder (icmpMessage false e.h e.b (quote4 m d n))) src =
        .ok (some r) ∧ r.addr = responder ∧ r.kind = e.kind ∧ Identifies c p r.proto := by
    intro i0 i1 pr a0 a1 a2 a3 a4 a5 a6 a7 hD ⟨pr', hparse, hI⟩
    obtain ⟨exts, hx⟩ := recv_error_v4 c hc hv e.te o e.h responder src hr e.b c.src c.dst h4.1 h4.2
      d _ _ _ _ _ _ _ _ _ _ _ hD m n hb e.hty e.hcode
    rw [hx, hparse]
    exact ⟨_, rfl, rfl, rfl, hI⟩
  cases hp : c.proto with
  | icmp =>
    obtain ⟨ck, -, -, hdisp⟩ := dispatch_icmp c hc hp (hsz (by simp [hp])) p
    have hw := wire_sendRaw k hdisp
    simp only [hv, Bool.false_eq_true, if_false, echoPkt] at hw
    cases hd.symm.trans hw
    exact key isDatagram4_ip4Bytes ⟨_, parse4_icmp hp, hp, hi_lo hpr.ident, hi_lo hpr.seq⟩
  | udp =>
    cases hpriv : c.privileged with
    | true =>
      obtain ⟨ck, -, -, -, -, hdisp⟩ := dispatch_udp_raw c hc hp hpriv (hsz (by simp [hp])) p
        (fun _ h => no6 h)
      obtain ⟨l0, l1, x0, x1, rest, hraw, -, -, hpa, -⟩ := rawUdp_cons c p ck
      have hw := wire_sendRaw k hdisp
      simp only [hv, Bool.false_eq_true, if_false, hraw] at hw
      cases hd.symm.trans hw
      refine (parse4_udp hc hp).elim fun e he => key isDatagram4_ip4Bytes ⟨_, he, ?_⟩
      exact ⟨hp, rfl, hi_lo hpr.srcPort, hi_lo hpr.destPort,
        fun h => by rw [(hpa h).1, (hpa h).2]; exact hi_lo hpr.seq,
        fun _ _ => hi_lo hpr.ident, fun h => no6 h⟩
    | false =>
      have hdisp := dispatch_udp_nonraw c hp hpriv (hsz (by simp [hp])) p
      simp only [dispatchUdpNonRaw, hv, Bool.false_eq_true, if_false] at hdisp
      -- `cases`: `d` is what `wireOfOps` makes of these socket calls (kernel-built headers)
      rw [wireDatagram, hdisp] at hd
      cases hd
      obtain ⟨f1, f2⟩ := hun hp hpriv
      refine (parse4_udp hc hp).elim fun e he => key isDatagram4_kernel ⟨_, he, ?_⟩
      exact ⟨hp, rfl, hi_lo hpr.srcPort, hi_lo hpr.destPort,
        fun h => absurd (f1.symm.trans h) (by simp),
        fun _ h => absurd (f2.symm.trans h) (by simp), fun h => no6 h⟩
  | tcp =>
    obtain ⟨t0, t1, t2, t3, trest, -, hkt⟩ := kernelTcp_cons k (hk hp) p.srcPort p.destPort
    have hdisp := dispatch_tcp c hp p
    simp only [dispatchTcp, hv, Bool.false_eq_true, if_false] at hdisp
    rw [wireDatagram, hdisp] at hd
    cases hd
    exact key (by rw [hkt]; exact isDatagram4_kernel)
      ⟨_, parse4_tcp hp, hp, rfl, hi_lo hpr.srcPort, hi_lo hpr.destPort⟩

theorem identified_v6 (c : ChanCfg) (hc : c.AddrOk) (hv : c.v6 = true) (p : Strat.Probe)
    (hpr : ProbeOk p) (k : KernelFill) (d : Buf) (hd : wireDatagram c k p = some d)
    (m : Mut6) (n : Nat)
    (hsz : c.proto ≠ .tcp → SizeOk c)
    (hun : c.proto = .udp → c.privileged = false →
      isParis p.flags = false ∧ isDublin p.flags = false)
    (hwin : c.proto = .udp → c.privileged = true → isParis p.flags = false →
      isDublin p.flags = true → (c.initialSeq ≤ p.seq ∧ p.seq - c.initialSeq ≤ 970) ∧ 6 ≤ n)
    (hk : c.proto = .tcp → (16 ≤ k.tcpRest.length ∧ k.tcpRest.length ≤ 60) ∧ 12 ≤ n)
    (e : ErrMsg c.v6) (o : Outer4) (responder : Buf) (hr : responder.length = 16)
    (hb : BodyOk c.v6 (quote6 m d n) e.b) :
    ∃ r, recvIcmp c (deliver c o responder (icmpMessage c.v6 e.h e.b (quote6 m d n))) responder =
        .ok (some r) ∧ r.addr = responder ∧ r.kind = e.kind ∧ Identifies c p r.proto := by
  have h6 := addr6 c hc hv
  have no4 : ∀ {P : Prop}, c.v6 = false → P := fun h => absurd (hv.symm.trans h) (by simp)
  have key : ∀ {nh a0 a1 a2 a3 a4 a5 a6 a7 rest} j,
      IsDatagram6 c.src c.dst d nh a0 a1 a2 a3 a4 a5 a6 a7 rest →
      j ≤ n ∧ j ≤ rest.length ∧ 48 + j ≤ 128 →
      (∀ t6 : Buf, t6.take j = rest.take j → j ≤ t6.length → ∃ pr',
        parse6 c m.tc.toNat nh c.dst a0 a1 a2 a3 a4 a5 a6 a7 t6 = .ok (some pr') ∧
        Identifies c p pr') →
      ∃ r, recvIcmp c (deliver c o responder (icmpMessage c.v6 e.h e.b (quote6 m d n))) responder =
        .ok (some r) ∧ r.addr = responder ∧ r.kind = e.kind ∧ Identifies c p r.proto := by
    intro nh a0 a1 a2 a3 a4 a5 a6 a7 rest j hD hj hparse
    obtain ⟨exts, t6, hx, ht, hl⟩ := recv_error_v6 c hc hv e.te o e.h responder hr e.b c.src c.dst
      h6.1 h6.2 d _ _ _ _ _ _ _ _ _ rest hD m n j hj hb e.hty e.hcode
    obtain ⟨pr', hp', hI⟩ := hparse t6 ht hl
    rw [hx, hp']
    exact ⟨_, rfl, rfl, rfl, hI⟩
  cases hp : c.proto with
  | icmp =>
    have hsz' := hsz (by simp [hp])
    obtain ⟨ck, -, -, hdisp⟩ := dispatch_icmp c hc hp hsz' p
    have hw := wire_sendRaw k hdisp
    simp only [hv, if_true, hp, echoPkt] at hw
    cases hd.symm.trans hw
    have hn : c.packetSize - l4Hdr - ipHdr c ≤ 1024 := by
      have := hsz'.le
      omega
    refine key 0
      (isDatagram6_kernel (by simp only [List.length_cons]; omega)
        (by simp only [List.length_replicate]; omega))
      (by omega) fun t6 _ _ => ⟨_, parse6_icmp hp, hp, hi_lo hpr.ident, hi_lo hpr.seq⟩
  | udp =>
    cases hpriv : c.privileged with
    | true =>
      obtain ⟨ck, -, -, -, hfit, hdisp⟩ := dispatch_udp_raw c hc hp hpriv (hsz (by simp [hp])) p
        (fun h1 _ h3 => (hwin hp hpriv h1 h3).1)
      obtain ⟨l0, l1, x0, x1, rest, hraw, ⟨rfl, rfl⟩, hrl, hpa, hrest⟩ := rawUdp_cons c p ck
      have hw := wire_sendRaw k hdisp
      simp only [hv, if_true, hp, hraw] at hw
      have hD : IsDatagram6 c.src c.dst d protoUdp (hi p.srcPort) (lo p.srcPort) (hi p.destPort)
          (lo p.destPort) (hi (8 + rest.length)) (lo (8 + rest.length)) x0 x1 rest := by
        rw [Option.some.inj (hd.symm.trans hw)]
        exact isDatagram6_kernel (by simp only [List.length_cons]; omega) (by omega)
      have hact : isParis p.flags = true → beN x0 x1 = p.seq := by
        intro h
        rw [(hpa h).1, (hpa h).2]
        exact hi_lo hpr.seq
      by_cases hdu : isParis p.flags = false ∧ isDublin p.flags = true
      · -- Dublin: the marker is in front of the parser
        obtain ⟨⟨hw1, hw2⟩, hn⟩ := hwin hp hpriv hdu.1 hdu.2
        have hpay : rest = Consts.net6_MAGIC ++ List.replicate (p.seq - c.initialSeq) c.pattern := by
          rw [hrest hdu.1, rawPayload_dublin6 hdu.1 hv hdu.2]
        have hpl : rest.length = 6 + (p.seq - c.initialSeq) := by
          rw [hpay]
          simp [magic_length]
        refine key 6 hD ⟨hn, by omega, by omega⟩ fun t6 ht6 _ => ?_
        have hmagic : Consts.net6_MAGIC.isPrefixOf t6 = true := by
          rw [isPrefixOf_iff_take, magic_length, ht6, hpay,
            List.take_append_of_le_length (by rw [magic_length]; omega),
            List.take_of_length_le (by rw [magic_length]; omega)]
        refine ⟨_, parse6_udp hp, hp, rfl, hi_lo hpr.srcPort, hi_lo hpr.destPort, hact,
          fun h => no4 h, fun _ _ _ => ?_⟩
        rw [hmagic, if_pos rfl, hi_lo (n := 8 + rest.length) (by omega)]
        have := hpr.seq
        exact ⟨rfl, by omega⟩
      · exact key 0 hD (by omega) fun t6 _ _ =>
          ⟨_, parse6_udp hp, hp, rfl, hi_lo hpr.srcPort, hi_lo hpr.destPort, hact,
            fun h => no4 h, fun _ h1 h2 => absurd ⟨h1, h2⟩ hdu⟩
    | false =>
      have hsz' := hsz (by simp [hp])
      have hdisp := dispatch_udp_nonraw c hp hpriv hsz' p
      simp only [dispatchUdpNonRaw, paySize, hv, if_true] at hdisp
      rw [wireDatagram, hdisp] at hd
      cases hd
      obtain ⟨f1, f2⟩ := hun hp hpriv
      have hn : c.packetSize - 48 ≤ 1024 := by
        have := hsz'.le
        omega
      refine key 0
        (isDatagram6_kernel (rest := List.replicate (c.packetSize - 48) c.pattern) rfl
          (by simp only [List.length_replicate]; omega)) (by omega) fun t6 _ _ =>
        ⟨_, parse6_udp hp, hp, rfl, hi_lo hpr.srcPort, hi_lo hpr.destPort,
          fun h => absurd (f1.symm.trans h) (by simp), fun h => no4 h,
          fun _ _ h => absurd (f2.symm.trans h) (by simp)⟩
  | tcp =>
    obtain ⟨hkl, hn⟩ := hk hp
    obtain ⟨t0, t1, t2, t3, trest, hk', hkt⟩ := kernelTcp_cons k hkl.1 p.srcPort p.destPort
    have htl : 12 ≤ trest.length ∧ trest.length ≤ 56 := by
      rw [hk'] at hkl
      simp only [List.length_cons] at hkl
      omega
    have hdisp := dispatch_tcp c hp p
    simp only [dispatchTcp, hv, if_true] at hdisp
    rw [wireDatagram, hdisp] at hd
    cases hd
    refine key 12
      (by
        rw [hkt]
        exact isDatagram6_kernel (by simp only [hk', List.length_cons]; omega) (by omega))
      ⟨hn, htl.1, by omega⟩ fun t6 _ hl =>
      ⟨_, parse6_tcp hp hl, hp, rfl, hi_lo hpr.srcPort, hi_lo hpr.destPort⟩

/-- hides `C11.Compat`, which does not mention the target -/
def Compat (c : ChanCfg) (s : Strat.Cfg) : Prop :=
  c.v6 = s.v6 ∧ c.proto = s.proto ∧ c.initialSeq = s.initialSeq ∧ addrNat c.dst = s.target

/-- the strategy takes the response for the probe with sequence `seq`: it passes
`Strategy::validate`, the trace-identifier check, and `StrategyResponse::from` recovers `seq` -/
def Accepted (s : Strat.Cfg) (r : Strat.Resp) (seq : Nat) : Prop :=
  Strat.validate s r = true ∧
  Strat.checkTraceId s (Strat.strategyResp s r).traceId = true ∧
  (Strat.strategyResp s r).seq = seq

theorem strategyResp_fields (s : Strat.Cfg) (r : Strat.Resp) :
    (Strat.strategyResp s r).traceId = (Strat.protoStrategyResp s r.proto).1 ∧
    (Strat.strategyResp s r).seq = (Strat.protoStrategyResp s r.proto).2.1 := by
  unfold Strat.strategyResp
  cases r.kind <;> simp

/-- ICMP: identifier = trace identifier, sequence = the probe's -/
theorem accepted_icmp (s : Strat.Cfg) (kind : Strat.RespKind) (t addr : Nat) (tos : Option Nat)
    (ext : Option Nat) (seq : Nat) :
    Accepted s { kind := kind, recv := t, addr := addr, proto := .icmp s.traceId seq tos, ext := ext }
      seq := by
  refine ⟨rfl, ?_, ?_⟩
  · rw [(strategyResp_fields s _).1]; simp [Strat.protoStrategyResp, Strat.checkTraceId]
  · rw [(strategyResp_fields s _).2]; simp [Strat.protoStrategyResp]

/-- UDP: the quoted destination is the target, the quoted ports are the probe's, and the
strategy's carrier holds the sequence -/
theorem accepted_udp (s : Strat.Cfg) (ts : Strat.TS) (ttl : Nat) (p : Strat.Probe)
    (hem : emitted s ts ttl = .ok p) (hproto : s.proto = .udp)
    (kind : Strat.RespKind) (t addr ident : Nat) (tos : Option Nat) (exp act plen : Nat)
    (magic : Bool) (ext : Option Nat)
    (hparis : s.strat = .paris → act = p.seq)
    (hdub4 : s.strat = .dublin → s.v6 = false → ident = p.seq)
    (hdub6 : s.strat = .dublin → s.v6 = true → magic = true ∧ (s.initialSeq + plen) % 65536 = p.seq) :
    Accepted s { kind := kind, recv := t, addr := addr,
                 proto := .udp ident s.target p.srcPort p.destPort tos exp act plen magic,
                 ext := ext } p.seq := by
  have hcell := (sequence_location s ts ttl p hem).2.2
  rw [hproto] at hcell
  unfold Accepted
  rw [(strategyResp_fields s _).1, (strategyResp_fields s _).2]
  unfold Strat.validate Strat.protoStrategyResp Strat.checkTraceId
  -- row by row: `hcell` has the fixed ports that `validatePorts` tests and, for classic, the port that
  -- carries the sequence; `hparis` / `hdub4` / `hdub6` have the other carriers, `hdub6` the marker
  cases hs : s.strat <;> cases hd : s.portDir
  all_goals simp only [hs, hd] at hcell hparis hdub4 hdub6
  all_goals cases hv : s.v6
  all_goals simp_all [Strat.validatePorts]

/-- TCP: the quoted destination is the target, the quoted ports are the probe's -/
theorem accepted_tcp (s : Strat.Cfg) (ts : Strat.TS) (ttl : Nat) (p : Strat.Probe)
    (hem : emitted s ts ttl = .ok p) (hproto : s.proto = .tcp)
    (kind : Strat.RespKind) (t addr : Nat) (tos : Option Nat) (ext : Option Nat) :
    Accepted s { kind := kind, recv := t, addr := addr,
                 proto := .tcp s.target p.srcPort p.destPort tos, ext := ext } p.seq := by
  have hcell := (sequence_location s ts ttl p hem).2.2
  rw [hproto] at hcell
  unfold Accepted
  rw [(strategyResp_fields s _).1, (strategyResp_fields s _).2]
  unfold Strat.validate Strat.protoStrategyResp Strat.checkTraceId
  -- row by row: `hcell` has the fixed port `validatePorts` tests and the variable port, read back as the sequence
  cases hs : s.strat <;> cases hd : s.portDir
  all_goals simp only [hs, hd] at hcell
  all_goals simp_all [Strat.validatePorts]

theorem emitted_udp_facts (s : Strat.Cfg) (ts : Strat.TS) (ttl : Nat) (p : Strat.Probe)
    (hem : emitted s ts ttl = .ok p) (hproto : s.proto = .udp) :
    (s.strat = .paris → isParis p.flags = true) ∧
    (s.strat = .dublin → p.ident = p.seq ∧ isParis p.flags = false ∧ isDublin p.flags = true) ∧
    (s.strat = .classic → isParis p.flags = false ∧ isDublin p.flags = false) := by
  have hloc := (sequence_location s ts ttl p hem).2.2
  rw [hproto] at hloc
  cases hs : s.strat <;> cases hd : s.portDir
  all_goals simp only [hs, hd] at hloc
  all_goals simp_all

theorem accepted_of_identifies (c : ChanCfg) (s : Strat.Cfg) (hcs : Compat c s) (ts : Strat.TS)
    (ttl : Nat) (p : Strat.Probe) (hem : emitted s ts ttl = .ok p) (r : WResp)
    (hid : Identifies c p r.proto) (t : Nat) : Accepted s (r.toStrat t) p.seq := by
  obtain ⟨hv, hproto, hinit, htarget⟩ := hcs
  unfold WResp.toStrat
  cases hr : r.proto with
  | icmp id sq tos =>
    rw [hr] at hid
    obtain ⟨hp, rfl, rfl⟩ := hid
    have hloc := (sequence_location s ts ttl p hem).2.2
    rw [← hproto, hp] at hloc
    rw [hloc.1]
    exact accepted_icmp s _ _ _ _ _ _
  | udp ident dest sp dp tos exp act plen magic =>
    rw [hr] at hid
    obtain ⟨hp, rfl, rfl, rfl, hpa, h4, h6⟩ := hid
    have hsp : s.proto = .udp := by rw [← hproto, hp]
    obtain ⟨fparis, fdublin, -⟩ := emitted_udp_facts s ts ttl p hem hsp
    rw [htarget]
    apply accepted_udp s ts ttl p hem hsp
    · exact fun h => hpa (fparis h)
    · exact fun h h' => (h4 (hv.trans h') (fdublin h).2.2).trans (fdublin h).1
    · intro h h'
      rw [← hinit]
      exact h6 (hv.trans h') (fdublin h).2.1 (fdublin h).2.2
  | tcp dest sp dp tos =>
    rw [hr] at hid
    obtain ⟨hp, rfl, rfl, rfl⟩ := hid
    rw [htarget]
    exact accepted_tcp s ts ttl p hem (by rw [← hproto, hp]) _ _ _ _ _

theorem accepted_of_exists_identifies {c : ChanCfg} {s : Strat.Cfg} (hcs : Compat c s) {ts : Strat.TS}
    {ttl : Nat} {p : Strat.Probe} (hem : emitted s ts ttl = .ok p) (t : Nat)
    {x : R (Option WResp)} {addr : Buf} {kind : Strat.RespKind}
    (h : ∃ r, x = .ok (some r) ∧ r.addr = addr ∧ r.kind = kind ∧ Identifies c p r.proto) :
    ∃ r, x = .ok (some r) ∧ r.addr = addr ∧ r.kind = kind ∧ Accepted s (r.toStrat t) p.seq := by
  obtain ⟨r, h1, h2, h3, h4⟩ := h
  exact ⟨r, h1, h2, h3, accepted_of_identifies c s hcs ts ttl p hem r h4 t⟩

/-- **ICMP / IPv4.**  Any quotation (`quote4`: rewritten TOS / total length / TTL / checksum, IP
header + 8 + `n` octets) of the Echo Request the tracer sent, in a Time Exceeded or Destination
Unreachable message of any embedding, from any responder, is decoded to a response from that
responder which the strategy accepts for exactly the probe's sequence. -/
theorem icmp_v4 (c : ChanCfg) (s : Strat.Cfg) (hcs : Compat c s) (hc : c.AddrOk) (hv : c.v6 = false)
    (hp : c.proto = .icmp) (hsz : SizeOk c) (ts : Strat.TS) (ttl : Nat) (p : Strat.Probe)
    (hem : emitted s ts ttl = .ok p) (hpr : ProbeOk p) (k : KernelFill) (d : Buf)
    (hd : wireDatagram c k p = some d) (e : ErrMsg false) (o : Outer4) (responder src : Buf)
    (hr : responder.length = 4) (m : Mut4) (n : Nat) (hb : BodyOk false (quote4 m d n) e.b)
    (t : Nat) :
    ∃ r, recvIcmp c (deliver c o responder (icmpMessage false e.h e.b (quote4 m d n))) src =
        .ok (some r) ∧
      r.addr = responder ∧ r.kind = e.kind ∧ Accepted s (r.toStrat t) p.seq :=
  accepted_of_exists_identifies hcs hem t
    (identified_v4 c hc hv p hpr k d hd (fun _ => hsz) (by simp [hp]) (by simp [hp])
      e o responder src hr m n hb)

/-- **UDP / IPv4 / raw socket** (classic, Paris, Dublin; every port direction).  As `icmp_v4`. -/
theorem udp_v4 (c : ChanCfg) (s : Strat.Cfg) (hcs : Compat c s) (hc : c.AddrOk) (hv : c.v6 = false)
    (hp : c.proto = .udp) (hpriv : c.privileged = true) (hsz : SizeOk c) (ts : Strat.TS)
    (ttl : Nat) (p : Strat.Probe)
    (hem : emitted s ts ttl = .ok p) (hpr : ProbeOk p) (k : KernelFill) (d : Buf)
    (hd : wireDatagram c k p = some d) (e : ErrMsg false) (o : Outer4) (responder src : Buf)
    (hr : responder.length = 4) (m : Mut4) (n : Nat) (hb : BodyOk false (quote4 m d n) e.b)
    (t : Nat) :
    ∃ r, recvIcmp c (deliver c o responder (icmpMessage false e.h e.b (quote4 m d n))) src =
        .ok (some r) ∧
      r.addr = responder ∧ r.kind = e.kind ∧ Accepted s (r.toStrat t) p.seq :=
  accepted_of_exists_identifies hcs hem t
    (identified_v4 c hc hv p hpr k d hd (fun _ => hsz) (by simp [hpriv]) (by simp [hp])
      e o responder src hr m n hb)

/-- **UDP / IPv4 / unprivileged** (classic; the kernel builds the IP and UDP headers): the
sequence travels in the variable port. -/
theorem udp_v4_unprivileged (c : ChanCfg) (s : Strat.Cfg) (hcs : Compat c s) (hc : c.AddrOk)
    (hv : c.v6 = false) (hp : c.proto = .udp) (hpriv : c.privileged = false) (hsz : SizeOk c)
    (hcl : s.strat = .classic) (ts : Strat.TS) (ttl : Nat) (p : Strat.Probe)
    (hem : emitted s ts ttl = .ok p) (hpr : ProbeOk p) (k : KernelFill) (d : Buf)
    (hd : wireDatagram c k p = some d) (e : ErrMsg false) (o : Outer4) (responder src : Buf)
    (hr : responder.length = 4) (m : Mut4) (n : Nat) (hb : BodyOk false (quote4 m d n) e.b)
    (t : Nat) :
    ∃ r, recvIcmp c (deliver c o responder (icmpMessage false e.h e.b (quote4 m d n))) src =
        .ok (some r) ∧
      r.addr = responder ∧ r.kind = e.kind ∧ Accepted s (r.toStrat t) p.seq := by
  have hfl := (emitted_udp_facts s ts ttl p hem (by rw [← hcs.2.1, hp])).2.2 hcl
  exact accepted_of_exists_identifies hcs hem t
    (identified_v4 c hc hv p hpr k d hd (fun _ => hsz) (fun _ _ => hfl) (by simp [hp])
      e o responder src hr m n hb)

/-- **TCP / IPv4**: a quotation of the SYN the kernel sent for the probe. -/
theorem tcp_v4 (c : ChanCfg) (s : Strat.Cfg) (hcs : Compat c s) (hc : c.AddrOk)
    (hv : c.v6 = false) (hp : c.proto = .tcp) (ts : Strat.TS) (ttl : Nat) (p : Strat.Probe)
    (hem : emitted s ts ttl = .ok p) (hpr : ProbeOk p) (k : KernelFill)
    (hk : 16 ≤ k.tcpRest.length) (d : Buf)
    (hd : wireDatagram c k p = some d) (e : ErrMsg false) (o : Outer4) (responder src : Buf)
    (hr : responder.length = 4) (m : Mut4) (n : Nat) (hb : BodyOk false (quote4 m d n) e.b)
    (t : Nat) :
    ∃ r, recvIcmp c (deliver c o responder (icmpMessage false e.h e.b (quote4 m d n))) src =
        .ok (some r) ∧
      r.addr = responder ∧ r.kind = e.kind ∧ Accepted s (r.toStrat t) p.seq :=
  accepted_of_exists_identifies hcs hem t
    (identified_v4 c hc hv p hpr k d hd (by simp [hp]) (by simp [hp]) (fun _ => hk)
      e o responder src hr m n hb)

/-- **ICMP / IPv6.**  Any quotation (`quote6`: rewritten traffic class / hop limit, IPv6 header +
8 + `n` octets) of the Echo Request, in any Time Exceeded / Destination Unreachable message. -/
theorem icmp_v6 (c : ChanCfg) (s : Strat.Cfg) (hcs : Compat c s) (hc : c.AddrOk) (hv : c.v6 = true)
    (hp : c.proto = .icmp) (hsz : SizeOk c) (ts : Strat.TS) (ttl : Nat) (p : Strat.Probe)
    (hem : emitted s ts ttl = .ok p) (hpr : ProbeOk p) (k : KernelFill) (d : Buf)
    (hd : wireDatagram c k p = some d) (e : ErrMsg c.v6) (o : Outer4) (responder : Buf)
    (hr : responder.length = 16) (m : Mut6) (n : Nat) (hb : BodyOk c.v6 (quote6 m d n) e.b)
    (t : Nat) :
    ∃ r, recvIcmp c (deliver c o responder (icmpMessage c.v6 e.h e.b (quote6 m d n))) responder =
        .ok (some r) ∧
      r.addr = responder ∧ r.kind = e.kind ∧ Accepted s (r.toStrat t) p.seq :=
  accepted_of_exists_identifies hcs hem t
    (identified_v6 c hc hv p hpr k d hd m n (fun _ => hsz) (by simp [hp]) (by simp [hp])
      (by simp [hp]) e o responder hr hb)

/-- **UDP / IPv6 / raw socket** (classic, Paris, Dublin).  For Dublin the quotation must reach
the six marker octets (`6 ≤ n`; a conforming ICMPv6 error quotes the whole probe) and the sequence
lies in the strategy's window. -/
theorem udp_v6 (c : ChanCfg) (s : Strat.Cfg) (hcs : Compat c s) (hc : c.AddrOk) (hv : c.v6 = true)
    (hp : c.proto = .udp) (hpriv : c.privileged = true) (hsz : SizeOk c) (ts : Strat.TS)
    (ttl : Nat) (p : Strat.Probe)
    (hem : emitted s ts ttl = .ok p) (hpr : ProbeOk p)
    (hwin : s.strat = .dublin → c.initialSeq ≤ p.seq ∧ p.seq - c.initialSeq ≤ 970)
    (k : KernelFill) (d : Buf)
    (hd : wireDatagram c k p = some d) (e : ErrMsg c.v6) (o : Outer4) (responder : Buf)
    (hr : responder.length = 16) (m : Mut6) (n : Nat) (hn : s.strat = .dublin → 6 ≤ n)
    (hb : BodyOk c.v6 (quote6 m d n) e.b) (t : Nat) :
    ∃ r, recvIcmp c (deliver c o responder (icmpMessage c.v6 e.h e.b (quote6 m d n))) responder =
        .ok (some r) ∧
      r.addr = responder ∧ r.kind = e.kind ∧ Accepted s (r.toStrat t) p.seq := by
  obtain ⟨fparis, -, fclassic⟩ := emitted_udp_facts s ts ttl p hem (by rw [← hcs.2.1, hp])
  have hdub : isParis p.flags = false → isDublin p.flags = true → s.strat = .dublin := by
    intro h1 h2
    cases hs : s.strat
    · exact absurd ((fclassic hs).2.symm.trans h2) (by simp)
    · exact absurd ((fparis hs).symm.trans h1) (by simp)
    · rfl
  exact accepted_of_exists_identifies hcs hem t
    (identified_v6 c hc hv p hpr k d hd m n (fun _ => hsz) (by simp [hpriv])
      (fun _ _ h1 h2 => ⟨hwin (hdub h1 h2), hn (hdub h1 h2)⟩) (by simp [hp]) e o responder hr hb)

/-- **UDP / IPv6 / unprivileged** (classic). -/
theorem udp_v6_unprivileged (c : ChanCfg) (s : Strat.Cfg) (hcs : Compat c s) (hc : c.AddrOk)
    (hv : c.v6 = true) (hp : c.proto = .udp) (hpriv : c.privileged = false) (hsz : SizeOk c)
    (hcl : s.strat = .classic) (ts : Strat.TS) (ttl : Nat) (p : Strat.Probe)
    (hem : emitted s ts ttl = .ok p) (hpr : ProbeOk p) (k : KernelFill) (d : Buf)
    (hd : wireDatagram c k p = some d) (e : ErrMsg c.v6) (o : Outer4) (responder : Buf)
    (hr : responder.length = 16) (m : Mut6) (n : Nat) (hb : BodyOk c.v6 (quote6 m d n) e.b)
    (t : Nat) :
    ∃ r, recvIcmp c (deliver c o responder (icmpMessage c.v6 e.h e.b (quote6 m d n))) responder =
        .ok (some r) ∧
      r.addr = responder ∧ r.kind = e.kind ∧ Accepted s (r.toStrat t) p.seq := by
  have hfl := (emitted_udp_facts s ts ttl p hem (by rw [← hcs.2.1, hp])).2.2 hcl
  exact accepted_of_exists_identifies hcs hem t
    (identified_v6 c hc hv p hpr k d hd m n (fun _ => hsz) (fun _ _ => hfl)
      (by simp [hpriv]) (by simp [hp]) e o responder hr hb)

/-- **TCP / IPv6**: the quotation must contain the 20-octet TCP header (`12 ≤ n`;
`Ipv6::extract_tcp_packet` does not pad a short quotation as the IPv4 code does — a conforming
ICMPv6 error quotes the whole SYN). -/
theorem tcp_v6 (c : ChanCfg) (s : Strat.Cfg) (hcs : Compat c s) (hc : c.AddrOk)
    (hv : c.v6 = true) (hp : c.proto = .tcp) (ts : Strat.TS) (ttl : Nat) (p : Strat.Probe)
    (hem : emitted s ts ttl = .ok p) (hpr : ProbeOk p) (k : KernelFill)
    (hk : 16 ≤ k.tcpRest.length ∧ k.tcpRest.length ≤ 60) (d : Buf)
    (hd : wireDatagram c k p = some d) (e : ErrMsg c.v6) (o : Outer4) (responder : Buf)
    (hr : responder.length = 16) (m : Mut6) (n : Nat) (hn : 12 ≤ n)
    (hb : BodyOk c.v6 (quote6 m d n) e.b) (t : Nat) :
    ∃ r, recvIcmp c (deliver c o responder (icmpMessage c.v6 e.h e.b (quote6 m d n))) responder =
        .ok (some r) ∧
      r.addr = responder ∧ r.kind = e.kind ∧ Accepted s (r.toStrat t) p.seq :=
  accepted_of_exists_identifies hcs hem t
    (identified_v6 c hc hv p hpr k d hd m n (by simp [hp]) (by simp [hp])
      (by simp [hp]) (fun _ => ⟨hk, hn⟩) e o responder hr hb)

/-- **Echo Reply** (both families): the target echoes identifier, sequence and data of the Echo
Request; any checksum, any responder. -/
theorem echo_reply (c : ChanCfg) (s : Strat.Cfg) (hcs : Compat c s) (hc : c.AddrOk)
    (hp : c.proto = .icmp) (ts : Strat.TS) (ttl : Nat) (p : Strat.Probe)
    (hem : emitted s ts ttl = .ok p) (hpr : ProbeOk p) (ck n : Nat) (o : Outer4) (ck0 ck1 : UInt8)
    (responder src : Buf) (hr : responder.length = if c.v6 then 16 else 4)
    (hsrc : c.v6 = true → src = responder) (t : Nat) :
    ∃ r, recvIcmp c (echoReply c o ck0 ck1 responder (echoPkt c ck p.ident p.seq n)) src =
        .ok (some r) ∧
      r.addr = responder ∧ r.kind = .echoReply 0 ∧ Accepted s (r.toStrat t) p.seq := by
  have hmsg : [tyEchoReply c.v6, 0, ck0, ck1] ++ (echoPkt c ck p.ident p.seq n).drop 4 =
      tyEchoReply c.v6 :: 0 :: ck0 :: ck1 :: hi p.ident :: lo p.ident :: hi p.seq :: lo p.seq ::
        List.replicate n c.pattern := by
    simp [echoPkt]
  unfold echoReply
  rw [hmsg, recvIcmp_deliver c hc o responder _ src hr (by simp only [List.length_cons]; omega) hsrc]
  refine ⟨{ kind := .echoReply 0, addr := responder, proto := .icmp p.ident p.seq none, exts := none },
    ?_, rfl, rfl, accepted_of_identifies c s hcs ts ttl p hem _ ?_ t⟩
  · unfold extractProbeResp
    simp [rd, rd16, (ty_ne c.v6).2, hp, hi_lo hpr.ident, hi_lo hpr.seq]
  · exact ⟨hp, rfl, rfl⟩

/-- **TCP handshake**: whatever the connection attempt of a probe's socket ends in — connected,
refused, or an ICMP error reported by the socket — the response carries the probe's ports and is
accepted for the probe's sequence. -/
theorem tcp_handshake (c : ChanCfg) (s : Strat.Cfg) (hcs : Compat c s) (hp : c.proto = .tcp)
    (ts : Strat.TS) (ttl : Nat) (p : Strat.Probe) (hem : emitted s ts ttl = .ok p)
    (sock : TcpSock) (hsock : sock ≠ .connected none ∧ sock ≠ .other) (t : Nat) :
    ∃ r, recvTcp c p.srcPort p.destPort sock = .ok (some r) ∧ Accepted s (r.toStrat t) p.seq ∧
      (r.kind = match sock with
        | .connected _ => .tcpReply | .refused => .tcpRefused | _ => .timeExceeded 1) := by
  have hacc : ∀ r : WResp, r.proto = .tcp (addrNat c.dst) p.srcPort p.destPort none →
      Accepted s (r.toStrat t) p.seq := by
    intro r h
    refine accepted_of_identifies c s hcs ts ttl p hem r ?_ t
    rw [h]
    exact ⟨hp, rfl, rfl, rfl⟩
  cases sock with
  | connected peer =>
    cases peer with
    | none => exact absurd rfl hsock.1
    | some a => exact ⟨_, rfl, hacc _ rfl, rfl⟩
  | refused => exact ⟨_, rfl, hacc _ rfl, rfl⟩
  | hostUnreachable a => exact ⟨_, rfl, hacc _ rfl, rfl⟩
  | other => exact absurd rfl hsock.2

def protoNum (c : ChanCfg) : UInt8 :=
  match c.proto with
  | .icmp => if c.v6 then 58 else 1
  | .udp => 17
  | .tcp => 6

def Foreign (c : ChanCfg) (s : Strat.Cfg) (qdst : Buf) (sp dp : Nat) : Prop :=
  qdst ≠ c.dst ∨ Strat.validatePorts s.portDir sp dp = false

theorem validate_foreign (c : ChanCfg) (s : Strat.Cfg) (hcs : Compat c s) {qdst : Buf}
    (hl : qdst.length = c.dst.length) {sp dp : Nat} (hf : Foreign c s qdst sp dp) {r : WResp}
    (hr : QuotesL4 (addrNat qdst) sp dp r.proto) (t : Nat) :
    Strat.validate s (r.toStrat t) = false := by
  have hdest : qdst ≠ c.dst → (decide (s.target = addrNat qdst)) = false := by
    intro hne
    rw [← hcs.2.2.2]
    simp only [decide_eq_false_iff_not]
    intro h
    exact hne (addrNat_inj hl h.symm)
  cases hp : r.proto
  all_goals rw [hp] at hr
  · exact hr.elim
  all_goals
    obtain ⟨rfl, rfl, rfl⟩ := hr
    rcases hf with hf | hf
    · simp [WResp.toStrat, Strat.validate, hp, hdest hf]
    · simp [WResp.toStrat, Strat.validate, hp, hf]

/-- **IPv4, negative.**  A quotation of *any* IPv4 datagram (any addresses, identification,
protocol, first eight octets), in any message: if its protocol is not the configured one the
tracer ignores it; if it is UDP / TCP to another destination or with another fixed port, the
response (if any) fails `Strategy::validate`. -/
theorem foreign_v4 (c : ChanCfg) (s : Strat.Cfg) (hcs : Compat c s) (hc : c.AddrOk)
    (hv : c.v6 = false) (e : ErrMsg false) (o : Outer4) (responder src : Buf)
    (hr : responder.length = 4) (qsrc qdst : Buf) (hqs : qsrc.length = 4) (hqd : qdst.length = 4)
    (d : Buf) (i0 i1 pr a0 a1 a2 a3 a4 a5 a6 a7 : UInt8)
    (hD : IsDatagram4 qsrc qdst d i0 i1 pr a0 a1 a2 a3 a4 a5 a6 a7) (m : Mut4) (n : Nat)
    (hb : BodyOk false (quote4 m d n) e.b) :
    (pr ≠ protoNum c →
      recvIcmp c (deliver c o responder (icmpMessage false e.h e.b (quote4 m d n))) src = .ok none) ∧
    (c.proto ≠ .icmp → Foreign c s qdst (beN a0 a1) (beN a2 a3) →
      ∀ r, recvIcmp c (deliver c o responder (icmpMessage false e.h e.b (quote4 m d n))) src =
        .ok (some r) → ∀ t, Strat.validate s (r.toStrat t) = false) := by
  obtain ⟨exts, hx⟩ := recv_error_v4 c hc hv e.te o e.h responder src hr e.b qsrc qdst hqs hqd
    d _ _ _ _ _ _ _ _ _ _ _ hD m n hb e.hty e.hcode
  constructor
  · intro hpr
    rw [hx]
    -- `protoNum c` is the number `parse4` tests for; any other gives `ok none`
    cases hp : c.proto
    all_goals simp only [protoNum, hp, hv, Bool.false_eq_true, if_false] at hpr
    all_goals simp [parse4, hp, protoIcmp, protoUdp, protoTcp, hpr, mkResp]
  · intro hni hf r hr' t
    rw [hx] at hr'
    obtain ⟨x, hx', rfl⟩ := mkResp_map_eq_some hr'
    exact validate_foreign c s hcs (by rw [hqd, (addr4 c hc hv).2]) hf (parse4_l4 hni hx') t

/-- **IPv6, negative.**  As `foreign_v4` for quotations of any IPv6 datagram. -/
theorem foreign_v6 (c : ChanCfg) (s : Strat.Cfg) (hcs : Compat c s) (hc : c.AddrOk)
    (hv : c.v6 = true) (e : ErrMsg c.v6) (o : Outer4) (responder : Buf)
    (hr : responder.length = 16) (qsrc qdst : Buf) (hqs : qsrc.length = 16) (hqd : qdst.length = 16)
    (d : Buf) (nh a0 a1 a2 a3 a4 a5 a6 a7 : UInt8) (rest : Buf)
    (hD : IsDatagram6 qsrc qdst d nh a0 a1 a2 a3 a4 a5 a6 a7 rest) (m : Mut6) (n : Nat)
    (hb : BodyOk c.v6 (quote6 m d n) e.b) :
    (nh ≠ protoNum c →
      recvIcmp c (deliver c o responder (icmpMessage c.v6 e.h e.b (quote6 m d n))) responder =
        .ok none) ∧
    (c.proto ≠ .icmp → Foreign c s qdst (beN a0 a1) (beN a2 a3) →
      ∀ r, recvIcmp c (deliver c o responder (icmpMessage c.v6 e.h e.b (quote6 m d n))) responder =
        .ok (some r) → ∀ t, Strat.validate s (r.toStrat t) = false) := by
  obtain ⟨exts, t6, hx, _, _⟩ := recv_error_v6 c hc hv e.te o e.h responder hr e.b qsrc qdst
    hqs hqd d _ _ _ _ _ _ _ _ _ rest hD m n 0 (by omega) hb e.hty e.hcode
  constructor
  · intro hpr
    rw [hx]
    cases hp : c.proto
    all_goals simp only [protoNum, hp, hv, if_true] at hpr
    all_goals simp [parse6, hp, protoIcmpV6, protoUdp, protoTcp, hpr, mkResp]
  · intro hni hf r hr' t
    rw [hx] at hr'
    obtain ⟨x, hx', rfl⟩ := mkResp_map_eq_some hr'
    exact validate_foreign c s hcs (by rw [hqd, (addr6 c hc hv).2]) hf (parse6_l4 hni hx') t

/-- **Dublin / IPv6, negative.**  A quoted UDP datagram whose payload does not start with the
marker `"trippy"` (six payload octets quoted) is rejected by `Strategy::validate`, even if
addresses and ports match. -/
theorem no_marker_v6 (c : ChanCfg) (s : Strat.Cfg) (hcs : Compat c s) (hc : c.AddrOk)
    (hv : c.v6 = true) (hp : c.proto = .udp) (hst : s.strat = .dublin) (e : ErrMsg c.v6)
    (o : Outer4) (responder : Buf)
    (hr : responder.length = 16) (qsrc qdst : Buf) (hqs : qsrc.length = 16) (hqd : qdst.length = 16)
    (d : Buf) (nh a0 a1 a2 a3 a4 a5 a6 a7 : UInt8) (rest : Buf)
    (hD : IsDatagram6 qsrc qdst d nh a0 a1 a2 a3 a4 a5 a6 a7 rest) (m : Mut6) (n : Nat)
    (hn : 6 ≤ n ∧ 6 ≤ rest.length) (hno : rest.take 6 ≠ Consts.net6_MAGIC)
    (hb : BodyOk c.v6 (quote6 m d n) e.b) :
    ∀ r, recvIcmp c (deliver c o responder (icmpMessage c.v6 e.h e.b (quote6 m d n))) responder =
      .ok (some r) → ∀ t, Strat.validate s (r.toStrat t) = false := by
  obtain ⟨exts, t6, hx, ht6, _⟩ := recv_error_v6 c hc hv e.te o e.h responder hr e.b qsrc qdst
    hqs hqd d _ _ _ _ _ _ _ _ _ rest hD m n 6 ⟨hn.1, hn.2, by omega⟩ hb e.hty e.hcode
  have hmagic : Consts.net6_MAGIC.isPrefixOf t6 = false := by
    rw [Bool.eq_false_iff, Ne, isPrefixOf_iff_take, magic_length, ht6]
    exact hno
  intro r hr' t
  rw [hx] at hr'
  obtain ⟨x, hx', rfl⟩ := mkResp_map_eq_some hr'
  by_cases h17 : nh = protoUdp
  · rw [h17, parse6_udp hp, hmagic] at hx'
    cases hx'
    have hv6 : s.v6 = true := by rw [← hcs.1, hv]
    simp [WResp.toStrat, Strat.validate, hst, hv6]
  · simp [parse6, hp, h17] at hx'

/-- `target` is 10.0.0.7 -/
def sampleS : Strat.Cfg :=
  { v6 := false, target := 167772167, proto := .udp, traceId := 0, maxRounds := none,
    firstTtl := 1, maxTtl := 64, grace := 0, maxInflight := 24, initialSeq := 33434,
    strat := .dublin, portDir := .fixedSrc 5000, minRound := 0, maxRound := 0 }

def sampleTS : Strat.TS :=
  { buffer := [], sequence := 33500, roundSeq := 33434, ttl := 7, round := 0, roundStart := 0,
    targetFound := false, maxRecvTtl := none, targetTtl := none, recvTime := none, now := 0 }

def sampleK : KernelFill :=
  { id0 := 1, id1 := 2, f0 := 0x40, f1 := 0, hc0 := 0, hc1 := 0, tcHi := 0, v1 := 0, v2 := 0,
    v3 := 0, uc0 := 0, uc1 := 0, tcpRest := List.replicate 16 0 }

/-- Time Exceeded, code 0, legacy RFC 4884 body with an empty extension structure -/
def sampleE : ErrMsg false :=
  { te := true, h := { type := 11, code := 0, ck0 := 0, ck1 := 0, r0 := 0, r1 := 0, r2 := 0 },
    b := .rfc4884 .legacy [0x20, 0, 0, 0], hty := rfl, hcode := fun _ => rfl }

/-- every hypothesis of `udp_v4` holds for the sample -/
example : Compat C11.sampleCfg sampleS ∧ C11.sampleCfg.AddrOk ∧ C11.sampleCfg.v6 = false ∧
    C11.sampleCfg.proto = .udp ∧ C11.sampleCfg.privileged = true ∧ SizeOk C11.sampleCfg ∧
    emitted sampleS sampleTS 7 = .ok C11.sampleProbe ∧ ProbeOk C11.sampleProbe ∧
    (∃ d, wireDatagram C11.sampleCfg sampleK C11.sampleProbe = some d ∧
      ∀ m n, BodyOk false (quote4 m d n) sampleE.b) := by
  have hc : C11.sampleCfg.AddrOk := by decide
  have hpr : ProbeOk C11.sampleProbe := by simp [ProbeOk, C11.sampleProbe]
  have hsz : SizeOk C11.sampleCfg := sizeOk_iff.2 (by decide)
  refine ⟨⟨rfl, rfl, rfl, by decide⟩, hc, rfl, rfl, rfl, hsz, by decide, hpr, ?_⟩
  obtain ⟨ck, -, -, -, -, hdisp⟩ := dispatch_udp_raw C11.sampleCfg hc rfl rfl hsz C11.sampleProbe
    (fun _ h => absurd h (by decide))
  exact ⟨_, wire_sendRaw sampleK hdisp, fun m n => ⟨by decide, by simp [lengthAttr]⟩⟩

example : Foreign C11.sampleCfg sampleS [10, 0, 0, 8] 5000 33434 := .inl (by decide)

/-- a TCP socket state for `tcp_handshake` -/
example : (TcpSock.refused ≠ .connected none ∧ TcpSock.refused ≠ .other) := by
  constructor <;> intro h <;> cases h

end TV.Props.C02

#print axioms TV.Props.C02.recv_error_v4
#print axioms TV.Props.C02.recv_error_v6
#print axioms TV.Props.C02.icmp_v4
#print axioms TV.Props.C02.udp_v4
#print axioms TV.Props.C02.udp_v4_unprivileged
#print axioms TV.Props.C02.tcp_v4
#print axioms TV.Props.C02.icmp_v6
#print axioms TV.Props.C02.udp_v6
#print axioms TV.Props.C02.udp_v6_unprivileged
#print axioms TV.Props.C02.tcp_v6
#print axioms TV.Props.C02.echo_reply
#print axioms TV.Props.C02.tcp_handshake
#print axioms TV.Props.C02.foreign_v4
#print axioms TV.Props.C02.foreign_v6
#print axioms TV.Props.C02.no_marker_v6
#print axioms TV.Props.C02.accepted_icmp
#print axioms TV.Props.C02.accepted_udp
#print axioms TV.Props.C02.accepted_tcp
