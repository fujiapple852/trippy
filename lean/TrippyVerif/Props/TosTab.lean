import TrippyVerif.Gen.TosTab
/-!
# The DSCP / ECN split of the type-of-service octet (translator tie; C17: the Dscp and Ecn columns never crash)

`TypeOfService::split` (trippy-core `types.rs`) is what `Hop::dscp()` / `Hop::ecn()` go through when the `K` / `M`
columns of the hop table are shown.  Its ECN match ends in `_ => unreachable!()`: that arm must really be unreachable for
every octet a hop can report.  `Gen/TosTab.lean` is regenerated from the source on every run.

* `ecn_match_total`, `dscp_match_total`: for every octet the masked value has a named arm (DSCP: or the numeric rest
  arm) — the `unreachable!()` arm is never taken;
* `fields_as_rfc`: DSCP is the upper six bits (`(tos & 0xfc) >> 2`), ECN the lower two (`tos & 0x03`) — RFC 2474 §3,
  RFC 3168 §5 — and together they are the whole octet;
* `dscp_names_as_registered`: the named code points are those of the IANA DSCP registry (pool 1 and LE, RFC 8622),
  each once, every other value is kept as a number;
* `ecn_names_as_rfc3168`: 00 Not-ECT, 01 ECT(1), 10 ECT(0), 11 CE, and the rest arm is the panicking one.
-/
namespace TV.Props.TosTab
open TV.Gen.TosTab

/-- the outcome of the ECN match for an octet: the arm's name, or `none` if only the panicking rest arm is left -/
def ecnOf (tos : Nat) : Option String := (ecnArms.find? (·.1 == tos &&& ecnMask)).map (·.2)

/-- the DSCP of an octet: a registered name or the number itself -/
def dscpOf (tos : Nat) : Option String :=
  match dscpArms.find? (·.1 == (tos &&& dscpMask) >>> dscpShift) with
  | some a => some a.2
  | none => if dscpOther then some (toString ((tos &&& dscpMask) >>> dscpShift)) else none

theorem ecn_match_total : ∀ tos : Fin 256, (ecnOf tos.val).isSome = true := by
  decide +kernel

theorem dscp_match_total : ∀ tos : Fin 256, (dscpOf tos.val).isSome = true := by decide +kernel

theorem fields_as_rfc : dscpMask = 0xfc ∧ dscpShift = 2 ∧ ecnMask = 0x03 ∧
    ∀ tos : Fin 256, (((tos.val &&& dscpMask) >>> dscpShift) <<< 2) ||| (tos.val &&& ecnMask) = tos.val := by decide +kernel

def SameSet (xs ys : List (Nat × String)) : Prop := xs.Nodup ∧ (∀ x ∈ xs, x ∈ ys) ∧ ∀ y ∈ ys, y ∈ xs
instance (xs ys : List (Nat × String)) : Decidable (SameSet xs ys) := by unfold SameSet; infer_instance

/-- IANA "Differentiated Services Field Codepoints" (DF/CS0, CS1–CS7, AF11–AF43, EF, VOICE-ADMIT, LE) -/
def registry : List (Nat × String) :=
  [(0, "DF"), (8, "CS1"), (16, "CS2"), (24, "CS3"), (32, "CS4"), (40, "CS5"), (48, "CS6"), (56, "CS7"),
   (10, "AF11"), (12, "AF12"), (14, "AF13"), (18, "AF21"), (20, "AF22"), (22, "AF23"),
   (26, "AF31"), (28, "AF32"), (30, "AF33"), (34, "AF41"), (36, "AF42"), (38, "AF43"),
   (46, "EF"), (44, "VA"), (1, "LE")]

theorem dscp_names_as_registered : SameSet dscpArms registry ∧ (dscpArms.map (·.1)).Nodup ∧ dscpOther = true := by decide +kernel

theorem ecn_names_as_rfc3168 :
    SameSet ecnArms [(0, "NotECT"), (1, "ECT1"), (2, "ECT0"), (3, "CE")] ∧ ecnRestPanics = true := by decide +kernel

#print axioms ecn_match_total
#print axioms dscp_match_total
#print axioms fields_as_rfc
#print axioms dscp_names_as_registered
#print axioms ecn_names_as_rfc3168
end TV.Props.TosTab
