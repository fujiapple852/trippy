import TrippyVerif.Gen.Wiring
/-!
# C16: from the configuration to the tracer

`build_config` (C16's wiring table) ends in a `TrippyConfig`; the tracer is then built by
`app::start_tracer` through the setters of trippy-core's `Builder`.  Both steps are translated into
tables on every run (`tools/rs2lean/wiring.py` → `Gen/Wiring.lean`); the theorems say that no option
is lost, swapped or stored under another name on that way:

* `setters_store_their_own_field`, `setters_distinct`: every `Builder` setter stores (an expression of) its one
  parameter in the field that carries the setter's name — rows (setter, field, parameters of the stored expression);
* `start_tracer_wiring`: every call of the chain hands `cfg.<name>` to the setter `<name>`, with the
  documented exceptions listed in `exceptions` — rows (method, argument);
* `start_tracer_complete`, `start_tracer_shape`: every setter is called exactly once, between `new` and `build`, `spawn`;
* `config_lookup_order`, `firstFound_spec`, `firstFound_none`: the default configuration file is the first that exists
  in the documented order of locations.
-/
namespace TV.Props.Wiring
open TV.Gen.Wiring

/-- what is deliberately not `setter(cfg.setter)`: the target is the constructor's argument, the
interface is cloned, TCP probes may stay outstanding for one minimal round, the trace identifier is
per target, the flow limit is a derived value, privileges are always dropped; `build` and `spawn` take no argument -/
def exceptions : List (String × String) :=
  [("new", "target_addr"), ("interface", "cfg . interface . clone ( )"),
   ("tcp_connect_timeout", "cfg . min_round_duration"), ("trace_identifier", "trace_identifier"),
   ("max_flows", "cfg . max_flows ( )"), ("drop_privileges", "true"), ("build", ""), ("spawn", "")]

theorem setters_store_their_own_field :
    ∀ t ∈ builderSetters, t.2.1 = t.1 ∧ t.2.2.length = 1 := by
  decide +kernel

theorem setters_distinct : (builderSetters.map (·.1)).Nodup := by decide +kernel

theorem start_tracer_wiring :
    ∀ c ∈ startTracerChain, c.2 = "cfg . " ++ c.1 ∨ c ∈ exceptions := by decide +kernel

theorem start_tracer_complete :
    ∀ t ∈ builderSetters, (startTracerChain.filter (·.1 = t.1)).length = 1 := by decide +kernel

/-- the chain is a construction, the setters, `build`, `spawn` — nothing else -/
theorem start_tracer_shape :
    startTracerChain.head? = some ("new", "target_addr") ∧
    (startTracerChain.map (·.1)).getLast? = some "spawn" ∧
    ∀ c ∈ startTracerChain, c.1 ∈ ["new", "build", "spawn"] ∨ c.1 ∈ builderSetters.map (·.1) :=
  ⟨rfl, rfl, by decide +kernel⟩

/-! ## where the configuration file comes from

`read_default_config_file` / `read_files` are chains `if let Some(file) = lookup? { Ok(Some(file)) } else …` (the
translator checks that every lookup is such an arm): the first file that exists is used.  `configLookupDirs` /
`configLookupNames` are the lookups in textual order, local aliases substituted. -/

/-- the chain, written by hand (no generated object mentions it): the first lookup that finds a file -/
def firstFound {α : Type} : List (Option α) → Option α
  | [] => none
  | some a :: _ => some a
  | none :: rest => firstFound rest

theorem firstFound_spec {α : Type} (l : List (Option α)) (a : α) :
    firstFound l = some a ↔ ∃ i : Nat, l[i]? = some (some a) ∧ ∀ j : Nat, j < i → l[j]? = some none := by
  induction l with
  | nil => simp [firstFound]
  | cons x xs ih =>
    cases x with
    | some b =>
      simp only [firstFound, Option.some.injEq]
      constructor
      · rintro rfl; exact ⟨0, by simp, by omega⟩
      · rintro ⟨i, hi, hj⟩
        cases i with
        | zero => simpa using hi
        | succ i => have := hj 0 (by omega); simp at this
    | none =>
      simp only [firstFound, ih]
      constructor
      · rintro ⟨i, hi, hj⟩
        refine ⟨i + 1, by simpa using hi, fun j hjlt => ?_⟩
        cases j with
        | zero => simp
        | succ j => simpa using hj j (by omega)
      · rintro ⟨i, hi, hj⟩
        cases i with
        | zero => simp at hi
        | succ i => exact ⟨i, by simpa using hi, fun j hjlt => by simpa using hj (j + 1) (by omega)⟩

theorem firstFound_none {α : Type} (l : List (Option α)) : firstFound l = none ↔ ∀ x ∈ l, x = none := by
  induction l with
  | nil => simp [firstFound]
  | cons x xs ih => cases x <;> simp [firstFound, ih]

/-- the documented order (file.rs doc comment, docs/reference/configuration.md): the current directory, the home
directory, the XDG configuration directory, its `trippy` sub-directory; in each `trippy.toml` before `.trippy.toml` -/
theorem config_lookup_order :
    configLookupDirs = ["\"\"", "base :: choose_base_strategy ( ) ? . home_dir ( )",
      "base :: choose_base_strategy ( ) ? . config_dir ( )",
      "base :: choose_base_strategy ( ) ? . config_dir ( ) . join ( \"trippy\" )"] ∧
    configLookupNames = ["trippy.toml", ".trippy.toml"] := ⟨rfl, rfl⟩

#print axioms firstFound_spec
#print axioms firstFound_none
#print axioms config_lookup_order
#print axioms setters_store_their_own_field
#print axioms setters_distinct
#print axioms start_tracer_wiring
#print axioms start_tracer_complete
#print axioms start_tracer_shape
end TV.Props.Wiring
