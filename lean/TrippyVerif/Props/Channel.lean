import TrippyVerif.Lemmas.Channel
import TrippyVerif.Props.C04
import TrippyVerif.Props.C11
/-!
# The Channel layer (`net/channel.rs`) — what C11 / C04 / C02 / C09 need from it

Model: `TV.Chan` (`Model/Channel.lean`), on top of `TV.Wire`.  Correspondence with the real
`Channel<SimSocket>`: harness component `chan`.

`send_probe` makes exactly the socket calls of `TV.Wire.dispatch` for the channel's family
configuration, and `recv_probe` returns what `Wire.recvIcmp` / `Wire.recvTcp` return, so the C11, C02
and C04 theorems, stated for the `Wire` functions, apply to everything that goes through the Channel.
Capacity (defect repaired by /repo 43c3120): before the repair (`sendOld`) a TCP `send_probe` with
256 probes outstanding panicked in `ArrayVec::push`, after the socket calls had been made; the
repaired one returns `Error::InsufficientCapacity`, and under `Sparse` no `send_probe` fails at all,
since entries leave the list in `recv_tcp_sockets` alone.
-/
namespace TV.Props.Channel
open TV TV.Wire TV.Chan

/-- the invariant `connect` establishes and `send` / `recv` preserve -/
def Inv (ch : Chan) : Prop := ch.hasSend = (ch.cfg.proto != .tcp)

theorem Inv.of_eq {a b : Chan} (h : Inv a) (hc : b.cfg = a.cfg) (hs : b.hasSend = a.hasSend) : Inv b := by
  rw [Inv, hs, hc]
  exact h

theorem Inv.hasSend {ch : Chan} (h : Inv ch) (hp : ch.cfg.proto ≠ .tcp) : ch.hasSend = true :=
  h.trans (bne_iff_ne.mpr hp)

/-- **C11 anchor (channel.rs:42-44).**  A packet size above 1024 is refused before any socket is
created. -/
theorem connect_size_guard (k : ConnCfg) (t : Nat) (h : k.packetSize > 1024) :
    connect k t = .err .invalidPacketSize := by
  simp [connect, MAX_PACKET_SIZE_eq, h]

/-- `connect` with source and target of the same family: the send socket of the protocol (none
for TCP), the receive socket bound to the source address, an empty probe list. -/
theorem connect_ok (k : ConnCfg) (t : Nat) (h : k.packetSize ≤ 1024) (hf : isV6 k.src = isV6 k.dst) :
    ∃ ch, connect k t = .ok (ch,
        (match k.proto with
         | .icmp => [ConnOp.newIcmpSend (isV6 k.src) k.privileged]
         | .udp => [ConnOp.newUdpSend (isV6 k.src) k.privileged]
         | .tcp => []) ++ [ConnOp.newRecv (isV6 k.src) k.src k.privileged]) ∧
      Inv ch ∧ ch.tcp = [] ∧ ch.now = t ∧ ch.tcpTimeout = k.tcpTimeout ∧
      ch.cfg = { v6 := isV6 k.src, src := k.src, dst := k.dst, packetSize := k.packetSize,
                 pattern := k.pattern, privileged := k.privileged, tos := k.tos, proto := k.proto,
                 extEnabled := k.extEnabled, initialSeq := k.initialSeq } := by
  have hne : (isV6 k.src != isV6 k.dst) = false := by simp [hf]
  unfold connect
  rw [MAX_PACKET_SIZE_eq, if_neg (Nat.not_lt.mpr h)]
  simp only [hne, Bool.false_eq_true, if_false]
  exact ⟨_, rfl, rfl, rfl, rfl, rfl, rfl⟩

/-- the `unreachable!()` of `connect`: source and target of different families.
`Builder::build` rejects such a configuration, so the tracer never gets here. -/
theorem connect_family_mismatch_panics (k : ConnCfg) (t : Nat) (h : k.packetSize ≤ 1024)
    (hf : isV6 k.src ≠ isV6 k.dst) : connect k t = .panic := by
  simp [connect, MAX_PACKET_SIZE_eq, Nat.not_lt.mpr h, hf]

theorem connect_never_panics (k : ConnCfg) (t : Nat) (hf : isV6 k.src = isV6 k.dst) : connect k t ≠ .panic := by
  by_cases hsz : k.packetSize ≤ 1024
  · obtain ⟨ch, h, -⟩ := connect_ok k t hsz hf
    simp [h]
  · simp [connect_size_guard k t (Nat.lt_of_not_le hsz)]

/-- **send_probe = the family's dispatch.**  Without socket errors, on a channel made by `connect`:
with 256 TCP probes outstanding the outcome is the capacity error, no socket call, state unchanged;
otherwise `send_probe` makes exactly the socket calls of `Wire.dispatch` (to which the C11
theorems apply), returns its error if it has one, and for TCP records the probe. -/
theorem send_is_wire_dispatch (ch : Chan) (hinv : Inv ch) (p : Strat.Probe) :
    (send ch p none).2 =
      (if ch.cfg.proto = .tcp ∧ ch.tcp.length ≥ 256 then .err .capacity []
       else match Wire.dispatch ch.cfg p with
         | .ok ops => .ok ops
         | .err e => .err e []
         | .panic => .panic) ∧
    (send ch p none).1 =
      (if ch.cfg.proto = .tcp ∧ ch.tcp.length ≥ 256 then ch
       else match ch.cfg.proto, Wire.dispatch ch.cfg p with
         | .tcp, .ok _ => { ch with tcp := ch.tcp ++ [⟨p.srcPort, p.destPort, ch.now⟩] }
         | _, _ => ch) := by
  rw [send_eq ch hinv.hasSend]
  split
  · exact ⟨rfl, rfl⟩
  · cases ch.cfg.proto <;> cases Wire.dispatch ch.cfg p <;> simp [runOps_none]

/-- `send_probe` keeps the configuration, the clock and the invariant -/
theorem send_keeps (ch : Chan) (p : Strat.Probe) (inj : Inject) :
    (send ch p inj).1.cfg = ch.cfg ∧ (send ch p inj).1.now = ch.now ∧
    (send ch p inj).1.tcpTimeout = ch.tcpTimeout ∧ (send ch p inj).1.hasSend = ch.hasSend :=
  have h := send_same ch p inj
  ⟨h.cfg, h.now, h.tcpTimeout, h.hasSend⟩

/-- what the dispatch needs of a probe handed to a channel configured as `c`: the sequence of a
privileged Dublin/IPv6 UDP probe lies in the window its payload length can encode -/
def GoodProbe (c : ChanCfg) (p : Strat.Probe) : Prop :=
  c.proto = .udp → c.privileged = true → isParis p.flags = false → c.v6 = true →
    isDublin p.flags = true → c.initialSeq ≤ p.seq ∧ p.seq - c.initialSeq ≤ 970

/-- the panic sites of the dispatch are slice bounds: they depend on the packet size and, for Dublin
over IPv6, on the sequence, and on no other field of the probe -/
theorem dispatch_never_panics (c : ChanCfg) (hc : c.AddrOk) (p : Strat.Probe) (hwin : GoodProbe c p) :
    Wire.dispatch c p ≠ .panic := by
  by_cases htcp : c.proto = .tcp
  · simp [Wire.dispatch, htcp]
  by_cases hsz : SizeOk c
  · cases hp : c.proto with
    | tcp => exact absurd hp htcp
    | icmp =>
      obtain ⟨ck, -, -, h⟩ := dispatch_icmp c hc hp hsz p
      rw [h]
      simp
    | udp =>
      cases hpriv : c.privileged with
      | true =>
        obtain ⟨ck, -, -, -, -, h⟩ := dispatch_udp_raw c hc hp hpriv hsz p (hwin hp hpriv)
        rw [h]
        simp
      | false =>
        rw [C11.udp_unprivileged c hp hpriv hsz p]
        simp
  · rw [C11.size_out_of_range c htcp p (by unfold SizeOk at hsz; omega)]
    simp

/-- **The family's dispatch does not panic for any probe the strategy can emit**: addresses of the
family's size, machine-valued probe fields, and — the one condition on the sequence — for a
privileged Dublin/IPv6 UDP probe the sequence lies in the strategy's window
(`initial ≤ seq ≤ initial + 970`; the state machine keeps it within `initial + 512`).  A packet
size outside the accepted range is an error value. -/
theorem wire_dispatch_never_panics (c : ChanCfg) (hc : c.AddrOk) (p : Strat.Probe) (hpr : ProbeOk p)
    (hwin : c.proto = .udp → c.privileged = true → isParis p.flags = false → c.v6 = true →
      isDublin p.flags = true → c.initialSeq ≤ p.seq ∧ p.seq - c.initialSeq ≤ 970) :
    Wire.dispatch c p ≠ .panic :=
  dispatch_never_panics c hc p hwin

/-- **`send_probe` never panics** (C09 / C11 through the Channel): for every channel made by
`connect` (`Inv`), in every state — any number of outstanding TCP probes — with or without a
socket error striking any call, `send_probe` returns success or an error value whenever the
family's dispatch does not panic (`wire_dispatch_never_panics`: it does not for any probe the
strategy can emit). -/
theorem send_never_panics (ch : Chan) (hinv : Inv ch) (p : Strat.Probe) (inj : Inject)
    (hd : Wire.dispatch ch.cfg p ≠ .panic) : (send ch p inj).2 ≠ .panic := by
  rw [send_eq ch hinv.hasSend]
  split
  · simp
  · cases hdd : Wire.dispatch ch.cfg p with
    | ok ops =>
      -- an armed error ends the dispatch with an error value
      simp only
      split <;> simp
    | err e => simp
    | panic => exact absurd hdd hd

/-- **Capacity (repaired, /repo 43c3120).**  With 256 TCP probes outstanding `send_probe` returns
`Error::InsufficientCapacity` without making a single socket call and leaves the channel as it
was — for every probe, family and configuration. -/
theorem send_capacity_error (ch : Chan) (hp : ch.cfg.proto = .tcp) (p : Strat.Probe) (inj : Inject)
    (hfull : ch.tcp.length ≥ 256) : send ch p inj = (ch, .err .capacity []) := by
  rw [send_eq ch (fun h => absurd hp h), if_pos ⟨hp, hfull⟩]

/-- **Capacity defect of the code before 43c3120 (channel.rs:144).**  With `MAX_TCP_PROBES` = 256
probes outstanding the next TCP `send_probe` panicked in `ArrayVec::push` — whatever the probe,
the family and the addresses — although the socket had been created, bound and connected. -/
theorem old_send_capacity_panic (ch : Chan) (hp : ch.cfg.proto = .tcp) (p : Strat.Probe)
    (hfull : ch.tcp.length ≥ 256) : (sendOld ch p none).2 = .panic := by
  simp [sendOld, hp, Wire.dispatch, runOps_none, MAX_TCP_PROBES_eq, hfull]

/-- TCP sends in a row, no receive in between -/
def sends (ch : Chan) : List Strat.Probe → Chan × List SendOut
  | [] => (ch, [])
  | p :: ps =>
    let r := send ch p none
    let rest := sends r.1 ps
    (rest.1, r.2 :: rest.2)

theorem sends_ok (ps : List Strat.Probe) : ∀ (ch : Chan), ch.cfg.proto = .tcp →
    ch.tcp.length + ps.length ≤ 256 →
    (sends ch ps).1.tcp.length = ch.tcp.length + ps.length ∧ (sends ch ps).1.cfg = ch.cfg ∧
    ∀ o ∈ (sends ch ps).2, ∃ ops, o = .ok ops := by
  induction ps with
  | nil =>
    intro ch _ _
    simp [sends]
  | cons p ps ih =>
    intro ch hp hl
    rw [List.length_cons] at hl ⊢
    have hs := send_tcp_ok ch hp (by omega) p
    obtain ⟨h1, h2, h3⟩ := ih { ch with tcp := ch.tcp ++ [⟨p.srcPort, p.destPort, ch.now⟩] } hp
      (by rw [List.length_append, List.length_singleton]; omega)
    simp only [sends, hs]
    refine ⟨?_, h2, ?_⟩
    · rw [h1, List.length_append, List.length_singleton]
      omega
    · intro o ho
      rcases List.mem_cons.mp ho with rfl | ho
      · exact ⟨_, rfl⟩
      · exact h3 o ho

/-- **Witness.**  From a fresh TCP channel (any configuration), 256 `send_probe` calls succeed and
leave 256 probes outstanding; the 257th panicked before the repair and returns the capacity error,
touching nothing, after it. -/
theorem old_capacity_witness_257 (k : ConnCfg) (t : Nat) (hsz : k.packetSize ≤ 1024)
    (hf : isV6 k.src = isV6 k.dst) (hp : k.proto = .tcp) (ps : List Strat.Probe)
    (hn : ps.length = 256) (p257 : Strat.Probe) :
    ∃ ch, connect k t = .ok ch ∧
      (∀ o ∈ (sends ch.1 ps).2, ∃ ops, o = .ok ops) ∧ (sends ch.1 ps).1.tcp.length = 256 ∧
      (sendOld (sends ch.1 ps).1 p257 none).2 = .panic ∧
      send (sends ch.1 ps).1 p257 none = ((sends ch.1 ps).1, .err .capacity []) := by
  obtain ⟨ch, hc, _, htcp, _, _, hcfg⟩ := connect_ok k t hsz hf
  have hproto : ch.cfg.proto = .tcp := hcfg ▸ hp
  obtain ⟨h1, h2, h3⟩ := sends_ok ps ch hproto (by simp [htcp, hn])
  have hlen : (sends ch ps).1.tcp.length = 256 := by rw [h1, htcp, hn]; rfl
  have hproto' : (sends ch ps).1.cfg.proto = .tcp := h2 ▸ hproto
  exact ⟨_, hc, h3, hlen, old_send_capacity_panic _ hproto' p257 (Nat.le_of_eq hlen.symm),
    send_capacity_error _ hproto' p257 none (Nat.le_of_eq hlen.symm)⟩

/-- a concrete instance: 10.0.0.1 → 10.0.0.7, 10 s connect timeout, 257 identical SYN probes -/
theorem old_capacity_witness_concrete :
    let k : ConnCfg :=
      { src := [10, 0, 0, 1], dst := [10, 0, 0, 7], packetSize := 84, pattern := 0,
        privileged := true, tos := 0, proto := .tcp, extEnabled := false, initialSeq := 33434,
        readTimeout := 10000000, tcpTimeout := 10000000000 }
    let p : Strat.Probe :=
      { seq := 33434, ident := 0, srcPort := 5000, destPort := 33434, ttl := 1,
        round := 0, sent := 0, flags := 0 }
    ∃ ch, connect k 0 = .ok ch ∧
      (sendOld (sends ch.1 (List.replicate 256 p)).1 p none).2 = .panic ∧
      (send (sends ch.1 (List.replicate 256 p)).1 p none).2 = .err .capacity [] := by
  intro k p
  obtain ⟨ch, hc, _, _, hpanic, hnew⟩ := old_capacity_witness_257 k 0 (by decide) (by decide) rfl
    (List.replicate 256 p) (List.length_replicate ..) p
  exact ⟨ch, hc, hpanic, by rw [hnew]⟩

/-- one iteration of the strategy's loop as the Channel sees it: `send_probe`, then time passes,
then `recv_probe` -/
structure Step where
  p : Strat.Probe
  dt : Nat
  env : Env

def loop (ch : Chan) : List Step → Chan × List SendOut
  | [] => (ch, [])
  | s :: ss =>
    let r := send ch s.p none
    let c2 := (recv (advance r.1 s.dt) s.env).chan
    let rest := loop c2 ss
    (rest.1, r.2 :: rest.2)

/-- **fewer than 256 sends per connect-timeout window**: `past` are the times of the sends so
far, `t` the present; at the receive of every iteration at most 255 sends (the present one
included) are younger than `timeout` -/
def Sparse (timeout : Nat) : List Step → List Nat → Nat → Prop
  | [], _, _ => True
  | s :: ss, past, t =>
    ((past ++ [t]).filter fun x => decide (t + s.dt - x < timeout)).length ≤ 255 ∧
    Sparse timeout ss (past ++ [t]) (t + s.dt)

theorem loop_ok (timeout : Nat) : ∀ (steps : List Step) (ch : Chan) (past : List Nat),
    ch.cfg.proto = .tcp → ch.tcpTimeout = timeout →
    (ch.tcp.map (·.start)).Sublist past → ch.tcp.length ≤ 255 →
    Sparse timeout steps past ch.now →
    ∀ o ∈ (loop ch steps).2, ∃ ops, o = .ok ops := by
  intro steps
  induction steps with
  | nil =>
    intro ch past _ _ _ _ _ o ho
    simp [loop] at ho
  | cons s ss ih =>
    intro ch past hp ht hsub hlen hsparse o ho
    obtain ⟨hcount, hrest⟩ := hsparse
    have hs := send_tcp_ok ch hp (by omega) s.p
    simp only [loop, hs] at ho
    rcases List.mem_cons.mp ho with rfl | ho
    · exact ⟨_, rfl⟩
    · -- `c1` is the channel at the receive: the survivors are among the young sends, at most 255
      let c1 : Chan := advance { ch with tcp := ch.tcp ++ [⟨s.p.srcPort, s.p.destPort, ch.now⟩] } s.dt
      have hk := recv_same c1 s.env
      have hyoung := recv_tcp_starts c1 s.env hp (l := past ++ [ch.now])
        (by simpa [c1, advance] using hsub.append (List.Sublist.refl [ch.now]))
      have hlen2 : (recv c1 s.env).chan.tcp.length ≤ 255 := by
        have := hyoung.length_le
        rw [List.length_map, show c1.tcpTimeout = timeout from ht] at this
        exact Nat.le_trans this hcount
      exact ih (recv c1 s.env).chan (past ++ [ch.now]) (hk.cfg ▸ hp) (hk.tcpTimeout ▸ ht)
        (hyoung.trans List.filter_sublist) hlen2 (hk.now ▸ hrest) o ho

/-- **No overflow under the sparse-sends hypothesis.**  Starting from a fresh TCP channel, if at
every receive of the loop at most 255 sends lie within `tcp_connect_timeout`, every `send_probe`
succeeds: `ArrayVec::push` is never reached with a full vector.  (With the command-line defaults
`tcp_connect_timeout = min_round_duration`, at most `max_ttl ≤ 254` probes per round are sent,
which satisfies the hypothesis as long as rounds do not overlap within the timeout; the library API
lets the two be chosen independently, e.g. a 10 s timeout with 1 s rounds over 30 hops.) -/
theorem loop_never_overflows (k : ConnCfg) (t : Nat) (hsz : k.packetSize ≤ 1024)
    (hf : isV6 k.src = isV6 k.dst) (hp : k.proto = .tcp) (steps : List Step)
    (hs : Sparse k.tcpTimeout steps [] t) :
    ∃ ch, connect k t = .ok ch ∧ ∀ o ∈ (loop ch.1 steps).2, ∃ ops, o = .ok ops := by
  obtain ⟨ch, hc, _, htcp, hnow, hto, hcfg⟩ := connect_ok k t hsz hf
  refine ⟨_, hc, ?_⟩
  rw [← hnow] at hs
  exact loop_ok k.tcpTimeout steps ch [] (hcfg ▸ hp) hto (by simp [htcp]) (by simp [htcp]) hs

/-- **recv_probe = the family's receive.**  For ICMP and UDP: `is_readable` decides whether the
family's `recv_icmp_probe` runs on the delivered datagram (cut to the 1024-octet buffer).  For TCP:
the young probes are polled in order; with none writable the ICMP path runs; otherwise the first
writable socket is handed to `recv_tcp_socket`, and only if that yields nothing (`Other`) the ICMP
path runs. -/
theorem recv_is_wire_recv (ch : Chan) (env : Env) :
    (ch.cfg.proto ≠ .tcp → (recv ch env).out = recvIcmpPart ch env) ∧
    (∀ src bytes, env.readable = .yes → env.dgram = .data src bytes →
      recvIcmpPart ch env = Wire.recvIcmp ch.cfg (bytes.take 1024) src) ∧
    (env.readable = .no → recvIcmpPart ch env = .ok none) ∧
    (ch.cfg.proto = .tcp →
      match (firstWritable (kept ch env)).2.1 with
      | none => (recv ch env).out = recvIcmpPart ch env
      | some x =>
        (recv ch env).out =
          (match tcpOutcome ch.cfg x.1 x.2 with
           | .ok none => recvIcmpPart ch env
           | r => r)) := by
  refine ⟨?_, ?_, ?_, ?_⟩
  · intro hp
    rw [recv_nontcp ch env hp]
  · exact fun src bytes h1 h2 => recvIcmpPart_data ch h1 h2
  · intro h
    simp [recvIcmpPart, h]
  · intro hp
    rw [recv_tcp ch env hp]
    rcases (firstWritable (kept ch env)).2.1 with _ | x <;> rfl

/-- the socket found writable is answered by `Wire.recvTcp` with the ports of its own probe -/
theorem tcpOutcome_is_wire (c : ChanCfg) (e : TcpEntry) :
    (∀ peer, tcpOutcome c e (.connected peer) = Wire.recvTcp c e.srcPort e.destPort (.connected peer)) ∧
    tcpOutcome c e .refused = Wire.recvTcp c e.srcPort e.destPort .refused ∧
    (∀ a, tcpOutcome c e (.unreach a) = Wire.recvTcp c e.srcPort e.destPort (.hostUnreachable a)) ∧
    tcpOutcome c e .other = .ok none ∧ tcpOutcome c e .takeErrorFails = .err .io :=
  ⟨fun _ => rfl, rfl, fun _ => rfl, rfl, rfl⟩

theorem recvIcmpPart_never_panics (ch : Chan) (hc : ch.cfg.AddrOk) (env : Env)
    (hsrc : ch.cfg.v6 = true → ∀ src bytes, env.dgram = .data src bytes → src.length ≠ 4) :
    recvIcmpPart ch env ≠ .panic := by
  unfold recvIcmpPart
  cases hr : env.readable <;> simp only
  · cases hd : env.dgram with
    | none => simp
    | readFails => simp
    | data src bytes =>
      exact C04.recv_never_panics ch.cfg hc _ src (fun hv => hsrc hv src bytes hd)
  · simp
  · simp

theorem tcpOutcome_never_panics (c : ChanCfg) (e : TcpEntry) (s : SockEnv) :
    tcpOutcome c e s ≠ .panic := by
  cases s with
  | connected peer => exact C04.recvTcp_never_panics c e.srcPort e.destPort (.connected peer)
  | refused => exact C04.recvTcp_never_panics c e.srcPort e.destPort .refused
  | unreach a => exact C04.recvTcp_never_panics c e.srcPort e.destPort (.hostUnreachable a)
  | other => exact C04.recvTcp_never_panics c e.srcPort e.destPort .other
  | takeErrorFails => simp [tcpOutcome]
  | notWritable => simp [tcpOutcome]
  | writableFails => simp [tcpOutcome]

/-- **C04 through the Channel.**  For every protocol, every state of the channel (any number of
outstanding TCP probes, any clock, also one that went backwards) and every scripted environment —
any poll answers, any datagram, any socket states — `recv_probe` returns a response, nothing or an
error value, never a panic.  Hypotheses as for `C04.recv_never_panics`: the configured addresses
have the size of their family, and the IPv6 receive socket does not report an `AF_INET` peer. -/
theorem recv_never_panics (ch : Chan) (hc : ch.cfg.AddrOk) (env : Env)
    (hsrc : ch.cfg.v6 = true → ∀ src bytes, env.dgram = .data src bytes → src.length ≠ 4) :
    (recv ch env).out ≠ .panic := by
  have hi := recvIcmpPart_never_panics ch hc env hsrc
  by_cases hp : ch.cfg.proto = .tcp
  · rw [recv_tcp ch env hp]
    rcases (firstWritable (kept ch env)).2.1 with _ | x
    · exact hi
    · have ht := tcpOutcome_never_panics ch.cfg x.1 x.2
      simp only
      split
      · exact hi
      · exact ht
  · rw [recv_nontcp ch env hp]
    exact hi

/-- **After every `recv_probe` each outstanding TCP probe is younger than the timeout**, nothing
was added, nothing reordered; configuration, clock and invariant are untouched. -/
theorem recv_prunes (ch : Chan) (env : Env) (hp : ch.cfg.proto = .tcp) :
    (∀ e ∈ (recv ch env).chan.tcp, ch.now - e.start < ch.tcpTimeout) ∧
    (recv ch env).chan.tcp.Sublist ch.tcp ∧
    (recv ch env).chan.cfg = ch.cfg ∧ (recv ch env).chan.now = ch.now :=
  ⟨recv_tcp_young ch env hp, recv_sublist ch env, (recv_same ch env).cfg, (recv_same ch env).now⟩

/-- for ICMP and UDP the (empty) list is not touched -/
theorem recv_nontcp_unchanged (ch : Chan) (env : Env) (hp : ch.cfg.proto ≠ .tcp) :
    (recv ch env).chan = ch := by rw [recv_nontcp ch env hp]

/-- **First writable socket wins; removed exactly once; answered with its own ports.**
`kept` = the young probes with their sockets' answers, in list order.  If none is writable
(`is_writable` false or failing) nothing is removed and all were polled.  Otherwise `kept` splits as
`pre ++ x :: post` with `pre` not writable and `x` the first writable: exactly `pre ++ [x]` were
polled, the new list is `pre ++ post` (so `x` is gone, everything else stays, in order), and if
`x`'s socket is connected (peer known), refused or reports an ICMP error, the response is a
`TcpReply` / `TcpRefused` / `TimeExceeded(1)` carrying the target address and `x`'s own source
and destination port. -/
theorem recv_first_writable (ch : Chan) (env : Env) (hp : ch.cfg.proto = .tcp) :
    match (firstWritable (kept ch env)).2.1 with
    | none =>
      (recv ch env).chan.tcp = (kept ch env).map (·.1) ∧
      (recv ch env).polled = (kept ch env).map (·.1) ∧
      ∀ y ∈ kept ch env, y.2.writable = false
    | some x =>
      ∃ pre post, kept ch env = pre ++ x :: post ∧ (∀ y ∈ pre, y.2.writable = false) ∧
        x.2.writable = true ∧
        (recv ch env).chan.tcp = (pre ++ post).map (·.1) ∧
        (recv ch env).polled = (pre ++ [x]).map (·.1) ∧
        (∀ r, (x.2 = .refused ∨ (∃ a, x.2 = .connected (some a)) ∨ (∃ a, x.2 = .unreach a)) →
          (recv ch env).out = .ok (some r) →
          r.proto = .tcp (addrNat ch.cfg.dst) x.1.srcPort x.1.destPort none) ∧
        ((x.2 = .refused ∨ (∃ a, x.2 = .connected (some a)) ∨ (∃ a, x.2 = .unreach a)) →
          ∃ r, (recv ch env).out = .ok (some r)) := by
  obtain ⟨hk, h1, h2, h3⟩ := firstWritable_eq (kept ch env)
  rw [recv_tcp ch env hp]
  generalize firstWritable (kept ch env) = fw at hk h1 h2 h3 ⊢
  obtain ⟨pre, o, post⟩ := fw
  cases o with
  | none =>
    obtain rfl : post = [] := h3 rfl
    simp only [Option.toList_none, List.append_nil] at hk ⊢
    exact ⟨by rw [hk], by rw [hk], by rw [hk]; exact h1⟩
  | some x =>
    simp only [Option.toList_some] at hk ⊢
    have hans := fun hx => tcpOutcome_answers ch.cfg x.1 (s := x.2) hx
    refine ⟨pre, post, by rw [hk]; simp, h1, h2 x rfl, rfl, rfl, fun r hx hr => ?_, fun hx => ?_⟩
    · obtain ⟨r', hr', hpr⟩ := hans hx
      rw [hr'] at hr
      cases hr
      exact hpr
    · obtain ⟨r', hr', -⟩ := hans hx
      exact ⟨r', by rw [hr']⟩

/-- **Probes that leave the list without a response.**  If the first writable socket reports
`SocketError::Other` the probe is dropped and the ICMP path is tried instead (by design: the
connect attempt failed for a reason that says nothing about the path); if `take_error` fails or the
connected socket has no peer address the probe is dropped and the error is returned (which ends
the trace). -/
theorem recv_lossy (ch : Chan) (env : Env) (hp : ch.cfg.proto = .tcp) (x : TcpEntry × SockEnv)
    (hfw : (firstWritable (kept ch env)).2.1 = some x) :
    (x.2 = .other → (recv ch env).out = recvIcmpPart ch env) ∧
    (x.2 = .takeErrorFails → (recv ch env).out = .err .io) ∧
    (x.2 = .connected none → (recv ch env).out = .err .missingAddr) := by
  rw [recv_tcp ch env hp, hfw]
  refine ⟨fun hx => ?_, fun hx => ?_, fun hx => ?_⟩
  all_goals
    simp only [hx]
    rfl

/-- **Observation: a completed handshake can be dropped unreported.**  One socket is handed to
`recv_tcp_socket` per `recv_probe`, and `retain` runs before the poll: two probes sent at time 0
with a timeout of 100, both connected at time 99 — the first is reported; at the next call
(time 100) the second is pruned by age although its handshake completed in time, and nothing is
reported for it. -/
theorem late_completion_dropped :
    let c : ChanCfg :=
      { v6 := false, src := [10, 0, 0, 1], dst := [10, 0, 0, 7], packetSize := 84,
        pattern := 0, privileged := true, tos := 0, proto := .tcp, extEnabled := false,
        initialSeq := 33434 }
    let ch : Chan :=
      { cfg := c, hasSend := false, readTimeout := 10, tcpTimeout := 100,
        tcp := [⟨5000, 33434, 0⟩, ⟨5000, 33435, 0⟩], now := 99 }
    let both : Env :=
      { readable := .no, dgram := .none,
        tcp := [.connected (some [10, 0, 0, 7]), .connected (some [10, 0, 0, 7])] }
    let r1 := recv ch both
    let r2 := recv (advance r1.chan 1) { both with tcp := [.connected (some [10, 0, 0, 7])] }
    r1.out = .ok (some { kind := .tcpReply, addr := [10, 0, 0, 7],
                         proto := .tcp 167772167 5000 33434 none, exts := none }) ∧
    r1.chan.tcp = [⟨5000, 33435, 0⟩] ∧ r2.out = .ok none ∧ r2.chan.tcp = [] ∧ r2.polled = [] := by
  intro c ch both r1 r2
  decide

def sampleChan : Chan :=
  { cfg :=
      { v6 := false, src := [10, 0, 0, 1], dst := [10, 0, 0, 7], packetSize := 84, pattern := 0,
        privileged := true, tos := 0, proto := .tcp, extEnabled := false, initialSeq := 33434 },
    hasSend := false, readTimeout := 10, tcpTimeout := 1000,
    tcp := [⟨5000, 33434, 0⟩, ⟨5000, 33435, 10⟩], now := 500 }

def sampleEnv : Env := { readable := .no, dgram := .none, tcp := [.notWritable, .refused] }

example : Inv sampleChan ∧ sampleChan.cfg.AddrOk ∧ sampleChan.cfg.proto = .tcp := by
  refine ⟨rfl, by decide, rfl⟩

example : (recv sampleChan sampleEnv).chan.tcp = [⟨5000, 33434, 0⟩] ∧
    (recv sampleChan sampleEnv).polled = [⟨5000, 33434, 0⟩, ⟨5000, 33435, 10⟩] := by
  decide

example : Sparse 1000
    [⟨{ seq := 1, ident := 0, srcPort := 1, destPort := 2, ttl := 1, round := 0, sent := 0, flags := 0 },
      400, sampleEnv⟩] [] 0 := by
  simp [Sparse]

end TV.Props.Channel

#print axioms TV.Props.Channel.connect_size_guard
#print axioms TV.Props.Channel.connect_ok
#print axioms TV.Props.Channel.connect_family_mismatch_panics
#print axioms TV.Props.Channel.send_is_wire_dispatch
#print axioms TV.Props.Channel.send_keeps
#print axioms TV.Props.Channel.wire_dispatch_never_panics
#print axioms TV.Props.Channel.send_never_panics
#print axioms TV.Props.Channel.send_capacity_error
#print axioms TV.Props.Channel.old_send_capacity_panic
#print axioms TV.Props.Channel.old_capacity_witness_257
#print axioms TV.Props.Channel.old_capacity_witness_concrete
#print axioms TV.Props.Channel.loop_never_overflows
#print axioms TV.Props.Channel.recv_is_wire_recv
#print axioms TV.Props.Channel.tcpOutcome_is_wire
#print axioms TV.Props.Channel.recv_never_panics
#print axioms TV.Props.Channel.recv_prunes
#print axioms TV.Props.Channel.recv_nontcp_unchanged
#print axioms TV.Props.Channel.recv_first_writable
#print axioms TV.Props.Channel.recv_lossy
#print axioms TV.Props.Channel.late_completion_dropped
