import TrippyVerif.Lemmas.Strategy
/-!
# C03 — only genuine current-round responses can complete a probe

`genuine c s r` (Lemmas/Strategy.lean) is the specification: `r` passes the tuple validation,
carries our trace identifier (or 0), and the sequence number recovered from it names a probe
*of the round in progress* that is *still awaiting* its first response.

All statements are for every builder-accepted configuration, every reachable state (any
environment, any number of rounds, sequence wrap-around included) and every response value.
-/
namespace TV.Props.C03
open TV.Strat

/-- a non-genuine response changes nothing but the clock: every slot, `target_found`,
`target_ttl`, `max_received_ttl`, `received_time`, sequence bookkeeping are identical. -/
theorem non_genuine_unchanged {c : Cfg} (hc : CfgOk c) {s : TS} (hs : Reach c s) (dt : Nat) (r : Resp)
    (hng : genuine c s r = none) : recvResponse c s dt (.resp r) = .ok (tick s dt) := by
  rw [recvResponse_resp (reach_inv hc hs)]
  simp only [afterRecv, hng]

/-- and a response has exactly the effect of "no response" on the whole iteration -/
theorem non_genuine_iter {c : Cfg} (hc : CfgOk c) {s : TS} (hs : Reach c s) (sends : List SendOutcome)
    (dt : Nat) (r : Resp)
    (hng : ∀ s1 lg, sendRequest c s sends = .ok (s1, lg) → genuine c s1 r = none) :
    iter c s { sends := sends, dt := dt, recv := .resp r } = iter c s { sends := sends, dt := dt, recv := .none } := by
  have hi := reach_inv hc hs
  rw [iter_eq hc hi, iter_eq hc hi]
  dsimp only
  split
  · rename_i s1 lg hsr
    simp only [afterRecv, hng s1 lg hsr, reduceCtorEq, if_false]
    rfl
  · rfl
  · rfl

/-- what "genuine" guarantees: the answered probe was allocated in this round (its sequence
number lies in `[round_sequence, sequence)`), carries this round's id, is still awaited, and the
response passed validation and the trace-id check -/
theorem genuine_sound {c : Cfg} (hc : CfgOk c) {s : TS} (hs : Reach c s) {r : Resp} {p : Probe}
    (hg : genuine c s r = some p) :
    validate c r = true ∧ checkTraceId c (strategyResp c r).traceId = true ∧
    p.seq = (strategyResp c r).seq ∧ s.roundSeq ≤ p.seq ∧ p.seq < s.sequence ∧ p.round = s.round ∧
    s.buffer[p.seq - s.roundSeq]? = some (.awaited p) := by
  obtain ⟨hv, ht⟩ := genuine_checked hg
  have ha := genuine_awaited (reach_inv hc hs) hg
  have hq := ha.seq
  exact ⟨hv, ht, hq, hq ▸ ha.ge, hq ▸ ha.lt, ha.round, hq ▸ ha.slot⟩

/-- duplicates: once a response has been accepted, the same response is no longer genuine -/
theorem duplicate_rejected {c : Cfg} (hc : CfgOk c) {s : TS} (hs : Reach c s) (dt : Nat) {r : Resp}
    {p : Probe} (hg : genuine c s r = some p) :
    genuine c (afterComplete (tick s dt) (strategyResp c r) p) r = none := by
  have ha := genuine_awaited (reach_inv hc hs) hg
  refine Option.eq_none_iff_forall_ne_some.mpr fun q hg' => ?_
  have := genuine_answered hg'
  rw [answered_afterComplete (s := tick s dt) p ha.ge (List.getElem?_eq_some_iff.mp ha.slot).1] at this
  cases this

/-- never-sent sequence numbers (at or beyond the next one to allocate) are never genuine -/
theorem never_sent_rejected {c : Cfg} (hc : CfgOk c) {s : TS} (hs : Reach c s) (r : Resp)
    (h : s.sequence ≤ (strategyResp c r).seq) : genuine c s r = none := by
  refine Option.eq_none_iff_forall_ne_some.mpr fun p hg => ?_
  have := (genuine_awaited (reach_inv hc hs) hg).lt
  omega

/-- sequence numbers below the round's first one (previous rounds) are never genuine -/
theorem earlier_sequence_rejected {c : Cfg} (hc : CfgOk c) {s : TS} (hs : Reach c s) (r : Resp)
    (h : (strategyResp c r).seq < s.roundSeq) : genuine c s r = none := by
  refine Option.eq_none_iff_forall_ne_some.mpr fun p hg => ?_
  have := (genuine_awaited (reach_inv hc hs) hg).ge
  omega

/-- a probe left in the buffer by an earlier round is never completed -/
theorem stale_probe_rejected {c : Cfg} (hc : CfgOk c) {s : TS} (hs : Reach c s) (r : Resp) (p : Probe)
    (hg : genuine c s r = some p) : ¬ p.round < s.round := by
  have := (genuine_awaited (reach_inv hc hs) hg).round
  omega

/-- another tracer instance: a different non-zero trace identifier is never genuine -/
theorem foreign_trace_id_rejected (c : Cfg) (s : TS) (r : Resp)
    (h1 : (strategyResp c r).traceId ≠ c.traceId) (h0 : (strategyResp c r).traceId ≠ 0) :
    genuine c s r = none := by
  refine Option.eq_none_iff_forall_ne_some.mpr fun p hg => ?_
  have := (genuine_checked hg).2
  simp [checkTraceId, Ne.symm h1, h0] at this

/-- another target or other fixed ports: rejected by validation -/
theorem invalid_tuple_rejected (c : Cfg) (s : TS) (r : Resp) (h : validate c r = false) :
    genuine c s r = none := by
  refine Option.eq_none_iff_forall_ne_some.mpr fun p hg => ?_
  rw [(genuine_checked hg).1] at h
  cases h

/-- UDP/TCP responses quoting a datagram for another destination fail validation -/
theorem other_target_invalid (c : Cfg) (r : Resp) (id dest sp dp : Nat) (tos : Option Nat)
    (e a pl : Nat) (m : Bool) (hp : r.proto = .udp id dest sp dp tos e a pl m) (hd : dest ≠ c.target) :
    validate c r = false := by
  simp [validate, hp, Ne.symm hd]

def dejunk (c : Cfg) : TS → List IterEnv → List IterEnv
  | _, [] => []
  | s, e :: es =>
    let e' : IterEnv := match e.recv, sendRequest c s e.sends with
      | .resp r, .ok (s1, _) => if (genuine c s1 r).isNone then { e with recv := .none } else e
      | _, _ => e
    match iter c s e with
    | .ok (s', _) => e' :: dejunk c s' es
    | _ => e' :: es

def dejunkEnv (c : Cfg) (s : TS) (e : IterEnv) : IterEnv :=
  match e.recv, sendRequest c s e.sends with
  | .resp r, .ok (s1, _) => if (genuine c s1 r).isNone then { e with recv := .none } else e
  | _, _ => e

theorem iter_dejunk {c : Cfg} (hc : CfgOk c) {s : TS} (hs : Reach c s) (e : IterEnv) :
    iter c s (dejunkEnv c s e) = iter c s e := by
  unfold dejunkEnv
  split
  · rename_i r s1 lg hr hsr
    split
    · rename_i hg
      obtain ⟨sends, dt, rv⟩ := e
      cases hr
      refine (non_genuine_iter hc hs sends dt r fun s1' lg' h' => ?_).symm
      rw [hsr] at h'
      cases h'
      simpa using hg
    · rfl
  · rfl

/-- run-level: replacing every non-genuine response of an environment by "no response"
(keeping the clock) does not change the run: published rounds, final state and result agree.
This is the "each tracer's results are those it would have obtained alone" statement for the
responses that belong to other tracers. -/
theorem run_dejunk {c : Cfg} (hc : CfgOk c) : ∀ (es : List IterEnv) {s : TS}, Reach c s →
    run c s (dejunk c s es) = run c s es := by
  intro es s hs
  fun_induction dejunk c s es with
  | case1 s => rfl
  | case2 s e es e' s' o hit ih =>
    -- `e'` is `dejunkEnv c s e`, the `let` of `dejunk`
    have he : iter c s e' = iter c s e := iter_dejunk hc hs e
    simp only [run, he, hit, ih (.step e o hs hit)]
  | case3 s e es e' hit =>
    have he : iter c s e' = iter c s e := iter_dejunk hc hs e
    unfold run
    rw [he]

/-! non-vacuity: a reachable state with an outstanding probe, a genuine and a junk response -/
def cfgEx : Cfg :=
  { v6 := false, target := 7, proto := .icmp, traceId := 1234, maxRounds := none, firstTtl := 1,
    maxTtl := 30, grace := 100, maxInflight := 24, initialSeq := 33434, strat := .classic,
    portDir := .none, minRound := 1000, maxRound := 1000 }
theorem cfgEx_ok : CfgOk cfgEx := by
  simp [CfgOk, cfgEx, Consts.core_MAX_TTL, Consts.core_MAX_INITIAL_SEQUENCE]
def respEx (seq : Nat) : Resp :=
  { kind := .timeExceeded 0, recv := 5, addr := 1001, proto := .icmp 1234 seq none, ext := none }
example : ((iter cfgEx (init cfgEx 0) { sends := [], dt := 5, recv := .none }).bind fun s' =>
    .ok ((genuine cfgEx s'.1 (respEx 33434)).isSome && (genuine cfgEx s'.1 (respEx 33435)).isNone))
    = (.ok true : R Bool) := by decide +kernel

theorem cliTraceId_eq (pid i : Nat) : cliTraceId pid i =
    if (pid % 65535 + i % 65535) % 65535 = 0 then 65535 else (pid % 65535 + i % 65535) % 65535 := rfl

/-- never zero (zero is the wildcard every tracer accepts) and a `u16` -/
theorem cli_trace_id_range (pid i : Nat) : 1 ≤ cliTraceId pid i ∧ cliTraceId pid i ≤ 65535 := by
  rw [cliTraceId_eq]
  split <;> omega

/-- distinct tracers of one invocation get distinct identifiers (up to 65535 targets) -/
theorem cli_trace_id_distinct (pid i j : Nat) (hi : i < 65535) (hj : j < 65535) (hij : i ≠ j) :
    cliTraceId pid i ≠ cliTraceId pid j := by
  rw [cliTraceId_eq, cliTraceId_eq]
  split <;> split <;> omega

/-- in the usual case the identifier is `pid + i` -/
theorem cli_trace_id_usual (pid i : Nat) (h0 : 0 < pid + i) (h : pid + i < 65535) :
    cliTraceId pid i = pid + i := by
  rw [cliTraceId_eq]
  have h1 : pid % 65535 = pid := Nat.mod_eq_of_lt (by omega)
  have h2 : i % 65535 = i := Nat.mod_eq_of_lt (by omega)
  rw [h1, h2, Nat.mod_eq_of_lt h]
  split <;> omega

/-- **Tracers started together do not hear each other (ICMP).**  Two tracers of one invocation
(identifiers `cliTraceId pid i`, `cliTraceId pid j`, `i ≠ j`): whatever tracer `j` receives in
answer to a probe of tracer `i` (it carries `i`'s identifier) is not genuine for `j` — hence, by
`non_genuine_unchanged` / `run_dejunk`, changes nothing in `j`'s trace. -/
theorem sibling_response_rejected (c : Cfg) (s : TS) (r : Resp) (pid i j : Nat)
    (hi : i < 65535) (hj : j < 65535) (hij : i ≠ j) (hc : c.traceId = cliTraceId pid j)
    (hr : (strategyResp c r).traceId = cliTraceId pid i) : genuine c s r = none := by
  apply foreign_trace_id_rejected
  · rw [hr, hc]
    exact cli_trace_id_distinct pid i j hi hj hij
  · rw [hr]
    have := (cli_trace_id_range pid i).1
    omega

/-- the assignment before the repair: process id ≡ 0 (mod 65535) gave the wildcard identifier 0 to
the first tracer — every sibling then accepts its responses — and `pid + i` overflowed -/
theorem old_assignment_wildcard : cliTraceIdOld 0 0 = .ok 0 ∧ checkTraceId { cfgEx with traceId := 1 } 0 = true := by
  decide
theorem old_assignment_overflow : cliTraceIdOld 65534 2 = .panic := by decide

end TV.Props.C03

#print axioms TV.Props.C03.non_genuine_unchanged
#print axioms TV.Props.C03.non_genuine_iter
#print axioms TV.Props.C03.genuine_sound
#print axioms TV.Props.C03.duplicate_rejected
#print axioms TV.Props.C03.never_sent_rejected
#print axioms TV.Props.C03.earlier_sequence_rejected
#print axioms TV.Props.C03.stale_probe_rejected
#print axioms TV.Props.C03.foreign_trace_id_rejected
#print axioms TV.Props.C03.invalid_tuple_rejected
#print axioms TV.Props.C03.other_target_invalid
#print axioms TV.Props.C03.run_dejunk
#print axioms TV.Props.C03.cli_trace_id_range
#print axioms TV.Props.C03.cli_trace_id_distinct
#print axioms TV.Props.C03.cli_trace_id_usual
#print axioms TV.Props.C03.sibling_response_rejected
#print axioms TV.Props.C03.old_assignment_wildcard
#print axioms TV.Props.C03.old_assignment_overflow
