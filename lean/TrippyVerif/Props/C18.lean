import TrippyVerif.Gen.Privacy
import TrippyVerif.Model.Tui
/-!
# C18 — hop privacy: hidden hops never reach the screen

`Gen/Privacy.lean` (generated by `tools/rs2lean/privacy.py` from `frontend/render/*.rs`) lists every
emitter site of hop-derived text — addresses, reverse-DNS host names, AS information, GeoIP text,
ICMP-extension text, map pins — and of the source address, each with the conjunction of privacy
conditions on the way from the view's `render` to the site (`[]` when there is none).  The
conditions are evaluated over `Option Nat` with Rust's `Option` order and *unbounded* hop ttls;
the theorems below are proved per literal shape and lifted to the table by a decidable check of
the shapes only (`table_shape`, no enumeration of ttls).

* `hidden_hops_not_emitted`: for every site, text of hop `t` emitted ⇒ privacy off or `t > n`.
* `source_hidden`: every site of the header view (source address and its host name) is emitted
  only with privacy off.
* `visible_hops_emitted` / `source_shown_when_off`: conversely the guards hide nothing else.
* `pin_has_visible_hop`: a map pin (drawn once for all hops at a location) is drawn only if one
  of its hops is visible.
* `expand_step`, `expand_bounded`, `contract_step`, `expand_contract`, `contract_expand`: the keyboard
  moves the setting by exactly one step along `off ↔ 0 ↔ 1 … ↔ hopCount`, never beyond the top, never with a `u8`
  overflow (`Model/Tui.lean`: `expandPrivacy`, `contractPrivacy`; the harness compares both with
  the real `TuiApp` after every key).

Scope: the guard *decisions*.  That the widgets draw nothing else is checked by the harness, which
scans every drawn frame for marker addresses / host names of the hidden hops (`tvh tui`, `c18-leak`).
The target address / host name (header, tabs) is the user's own argument and is not part of the
hidden set (`privacy.py`: EXEMPT); `build_map_entries` only collects records (COLLECTOR).
-/
namespace TV.Props.C18
open TV.Privacy

/-- hop `t` may be shown under the privacy setting `p` -/
def Visible (p : Option Nat) (t : Nat) : Prop := p = none ∨ ∃ n, p = some n ∧ n < t

theorem visible_some (n t : Nat) : Visible (some n) t ↔ n < t := by
  simp [Visible]

/-- the guard functions of the table agree with the Rust expressions they were read from -/
theorem lit_meaning (p : Option Nat) (t : Nat) :
    (Lit.eval .geSome p t = true ↔ ¬ Visible p t) ∧ (Lit.eval .someGt p t = true ↔ Visible p t) ∧
    (Lit.eval .isSome p t = true ↔ p ≠ none) := by
  cases p <;> simp [Lit.eval, optLt, Visible]

/-- `!(P >= Some(t))` or `Some(t) > P`: true exactly of the visible hops -/
def exactLit (l : GLit) : Bool := (l.neg && l.lit == .geSome) || (!l.neg && l.lit == .someGt)

/-- `!P.is_some()`: the source-address shape -/
def offOnly (l : GLit) : Bool := l.neg && l.lit == .isSome

theorem exactLit_cases {l : GLit} (h : exactLit l = true) : l = ⟨true, .geSome⟩ ∨ l = ⟨false, .someGt⟩ := by
  obtain ⟨neg, lit⟩ := l
  cases neg <;> cases lit <;> simp [exactLit] at h ⊢

theorem offOnly_eq {l : GLit} (h : offOnly l = true) : l = ⟨true, .isSome⟩ := by
  obtain ⟨neg, lit⟩ := l
  cases neg <;> cases lit <;> simp [offOnly] at h ⊢

theorem exactLit_iff {l : GLit} (h : exactLit l = true) (p : Option Nat) (t : Nat) :
    l.eval p t = true ↔ Visible p t := by
  obtain ⟨-, hgt, -⟩ := lit_meaning p t
  rcases exactLit_cases h with rfl | rfl
  · -- `P >= Some(t)` is `!(Some(t) > P)` by definition
    have : Lit.eval .geSome p t = !Lit.eval .someGt p t := rfl
    simpa only [GLit.eval, Bool.true_bne, this, Bool.not_not] using hgt
  · simpa only [GLit.eval, Bool.false_bne] using hgt

theorem offOnly_iff {l : GLit} (h : offOnly l = true) (p : Option Nat) (t : Nat) : l.eval p t = true ↔ p = none := by
  obtain ⟨-, -, hs⟩ := lit_meaning p t
  cases offOnly_eq h
  rw [GLit.eval, Bool.true_bne, Bool.not_eq_true', ← Bool.not_eq_true, hs, Decidable.not_not]

theorem guard_iff {g : ViewGuard} {p : Option Nat} {t : Nat} {P : Prop} (hne : g.lits.isEmpty = false)
    (h : ∀ l ∈ g.lits, (l.eval p t = true ↔ P)) : g.guard p t = true ↔ P := by
  unfold ViewGuard.guard
  rw [List.all_eq_true]
  constructor
  · intro ha
    cases hl : g.lits with
    | nil => rw [hl] at hne; cases hne
    | cons l ls => exact (h l (hl ▸ List.mem_cons_self ..)).mp (ha l (hl ▸ List.mem_cons_self ..))
  · exact fun hp l hl => (h l hl).mpr hp

/-- at least one condition (an emitter without a recognisable guard has `lits = []`), each of the shape of its view -/
def guardShape (g : ViewGuard) : Bool :=
  !g.lits.isEmpty && g.lits.all (if g.view == "header" then offOnly else exactLit)

theorem table_shape : viewGuards.all guardShape = true := by decide

/-- the table is not empty, and every view that draws hop text is represented -/
theorem table_views : viewGuards.length ≥ 40 ∧
    (viewGuards.any (·.view == "table")) = true ∧ (viewGuards.any (·.view == "world")) = true ∧
    (viewGuards.any (·.view == "header")) = true := by decide

theorem guard_meaning (g : ViewGuard) (hg : g ∈ viewGuards) (p : Option Nat) (t : Nat) :
    (g.view = "header" → (g.guard p t = true ↔ p = none)) ∧
    (g.view ≠ "header" → (g.guard p t = true ↔ Visible p t)) := by
  have h := List.all_eq_true.mp table_shape g hg
  rw [guardShape, Bool.and_eq_true, Bool.not_eq_true', List.all_eq_true] at h
  refine ⟨fun hv => ?_, fun hv => ?_⟩
  · rw [beq_iff_eq.mpr hv, if_pos rfl] at h
    exact guard_iff h.1 fun l hl => offOnly_iff (h.2 l hl) p t
  · rw [beq_eq_false_iff_ne.mpr hv, if_neg Bool.false_ne_true] at h
    exact guard_iff h.1 fun l hl => exactLit_iff (h.2 l hl) p t

/-- **C18, guard decisions.**  At every emitter site of every view: if text of hop `t` is emitted
under the privacy setting `p`, then privacy is off or `t` is above the limit. -/
theorem hidden_hops_not_emitted (g : ViewGuard) (hg : g ∈ viewGuards) (p : Option Nat) (t : Nat)
    (he : g.guard p t = true) : Visible p t := by
  by_cases hv : g.view = "header"
  · exact Or.inl (((guard_meaning g hg p t).1 hv).mp he)
  · exact ((guard_meaning g hg p t).2 hv).mp he

/-- the same, read from the other side: with privacy ttl `n` in force nothing of a hop with
`t ≤ n` is emitted anywhere -/
theorem hidden_hops_not_emitted' (g : ViewGuard) (hg : g ∈ viewGuards) (n t : Nat) (ht : t ≤ n) :
    g.guard (some n) t = false := by
  cases h : g.guard (some n) t with
  | false => rfl
  | true =>
    have := (visible_some n t).mp (hidden_hops_not_emitted g hg _ _ h)
    omega

/-- the source address (and its host name) is emitted only with privacy off -/
theorem source_hidden (g : ViewGuard) (hg : g ∈ viewGuards) (hv : g.view = "header") (p : Option Nat) (t : Nat)
    (he : g.guard p t = true) : p = none :=
  ((guard_meaning g hg p t).1 hv).mp he

/-- … and is shown when privacy is off -/
theorem source_shown_when_off (g : ViewGuard) (hg : g ∈ viewGuards) (hv : g.view = "header") (t : Nat) :
    g.guard none t = true :=
  ((guard_meaning g hg none t).1 hv).mpr rfl

/-- hops above the limit are shown normally: outside the header no guard hides a visible hop -/
theorem visible_hops_emitted (g : ViewGuard) (hg : g ∈ viewGuards) (hv : g.view ≠ "header") (p : Option Nat) (t : Nat)
    (h : Visible p t) : g.guard p t = true :=
  ((guard_meaning g hg p t).2 hv).mpr h

/-- a map pin stands for all hops `ts` at one location and is drawn iff the guard holds for one of
them: then one of them is visible -/
theorem pin_has_visible_hop (g : ViewGuard) (hg : g ∈ viewGuards) (p : Option Nat) (ts : List Nat)
    (he : ts.any (g.guard p) = true) : ∃ t ∈ ts, Visible p t := by
  obtain ⟨t, ht, h⟩ := List.any_eq_true.mp he
  exact ⟨t, ht, hidden_hops_not_emitted g hg p t h⟩

open TV.Tui hiding optLt

/-- position on the ladder `off, 0, 1, …` -/
def rank : Option Nat → Nat
  | none => 0
  | some n => n + 1

theorem rank_none : rank none = 0 := rfl

theorem rank_some (n : Nat) : rank (some n) = n + 1 := rfl

theorem rank_inj {p q : Option Nat} (h : rank p = rank q) : p = q := by
  cases p <;> cases q <;> simp [rank] at h ⊢
  exact h

/-- `expand_privacy`: with `hopCount` hops in the selected flow (at most 254, `MAX_TTL`) the call
returns normally (no `u8` overflow), changes nothing but the privacy setting, and moves it up by
exactly one step unless it already is at or above the top `hopCount`. -/
theorem expand_step (a : App) (hs : List HopS) (hh : hopsForFlow a.snap a.selectedFlow = .ok hs)
    (hlen : hs.length ≤ 254) :
    ∃ q, expandPrivacy a = .ok { a with privacy := q } ∧
      (rank a.privacy ≤ hs.length → rank q = rank a.privacy + 1) ∧
      (hs.length < rank a.privacy → q = a.privacy) ∧
      (∀ n, q = some n → n ≤ 255 ∨ q = a.privacy) := by
  unfold expandPrivacy
  simp only [hh, R.bind_ok, R.pure_eq]
  cases hp : a.privacy with
  | none =>
    refine ⟨some 0, rfl, fun _ => rfl, fun h => absurd h (Nat.not_lt_zero _), fun n h => .inl ?_⟩
    cases h
    exact Nat.zero_le _
  | some p =>
    dsimp only
    rw [rank_some]
    by_cases hlt : p < hs.length
    · rw [if_pos hlt, if_pos (by omega)]
      refine ⟨some (p + 1), rfl, fun _ => rfl, fun h => by omega, fun n h => .inl ?_⟩
      cases h
      omega
    · rw [if_neg hlt]
      refine ⟨some p, ?_, fun h => by omega, fun _ => rfl, fun _ _ => .inr rfl⟩
      rw [← hp]

/-- never beyond the top: a setting within `off … hopCount` stays there -/
theorem expand_bounded (a : App) (hs : List HopS) (hh : hopsForFlow a.snap a.selectedFlow = .ok hs)
    (hlen : hs.length ≤ 254) (hb : rank a.privacy ≤ hs.length + 1) :
    ∃ a', expandPrivacy a = .ok a' ∧ rank a'.privacy ≤ hs.length + 1 := by
  obtain ⟨q, h1, h2, h3, _⟩ := expand_step a hs hh hlen
  refine ⟨_, h1, ?_⟩
  show rank q ≤ hs.length + 1
  by_cases h : rank a.privacy ≤ hs.length
  · rw [h2 h]; omega
  · rw [h3 (by omega)]; exact hb

/-- `contract_privacy`: changes nothing but the privacy setting and moves it down by exactly one
step (`0 ↦ off`), staying at `off`. -/
theorem contract_step (a : App) :
    ∃ q, contractPrivacy a = { a with privacy := q } ∧ rank q = rank a.privacy - 1 := by
  unfold contractPrivacy
  split
  · rename_i p hp
    rw [hp, rank_some]
    split
    · exact ⟨some (p - 1), rfl, by rw [rank_some]; omega⟩
    · exact ⟨none, rfl, by rw [rank_none]; omega⟩
  · rename_i hp
    exact ⟨a.privacy, rfl, by rw [hp, rank_none]⟩

/-- one step up then one step down is the identity (below the top) -/
theorem expand_contract (a : App) (hs : List HopS) (hh : hopsForFlow a.snap a.selectedFlow = .ok hs)
    (hlen : hs.length ≤ 254) (hb : rank a.privacy ≤ hs.length) :
    ∃ a', expandPrivacy a = .ok a' ∧ (contractPrivacy a').privacy = a.privacy := by
  obtain ⟨q, h1, h2, _, _⟩ := expand_step a hs hh hlen
  refine ⟨_, h1, ?_⟩
  obtain ⟨q', h3, h4⟩ := contract_step { a with privacy := q }
  rw [h3]
  show q' = a.privacy
  apply rank_inj
  rw [h4]
  show rank q - 1 = rank a.privacy
  rw [h2 hb]; omega

/-- one step down then one step up is the identity (above `off`, within the ladder) -/
theorem contract_expand (a : App) (hs : List HopS) (hh : hopsForFlow a.snap a.selectedFlow = .ok hs)
    (hlen : hs.length ≤ 254) (h0 : 0 < rank a.privacy) (hb : rank a.privacy ≤ hs.length + 1) :
    ∃ a', expandPrivacy (contractPrivacy a) = .ok a' ∧ a'.privacy = a.privacy := by
  obtain ⟨q, h1, h2⟩ := contract_step a
  rw [h1]
  obtain ⟨q', h3, h4, _, _⟩ := expand_step { a with privacy := q } hs hh hlen
  refine ⟨_, h3, ?_⟩
  show q' = a.privacy
  apply rank_inj
  have : rank q ≤ hs.length := by rw [h2]; omega
  rw [h4 this, h2]; omega

end TV.Props.C18

#print axioms TV.Props.C18.hidden_hops_not_emitted
#print axioms TV.Props.C18.hidden_hops_not_emitted'
#print axioms TV.Props.C18.source_hidden
#print axioms TV.Props.C18.source_shown_when_off
#print axioms TV.Props.C18.visible_hops_emitted
#print axioms TV.Props.C18.pin_has_visible_hop
#print axioms TV.Props.C18.table_views
#print axioms TV.Props.C18.lit_meaning
#print axioms TV.Props.C18.expand_step
#print axioms TV.Props.C18.expand_bounded
#print axioms TV.Props.C18.contract_step
#print axioms TV.Props.C18.expand_contract
#print axioms TV.Props.C18.contract_expand
