import TrippyVerif.Props.Stack
import TrippyVerif.Props.Termination
import TrippyVerif.Props.C19Strat
/-!
# Run-level theorems about the strategy, for the whole stack (C09, C19)

What holds of every run of the abstract machine holds of `Tracer::run` over the real `Channel` (model
`TV.Stack`), along `LoopRun`.  C09 liveness: with a round limit `n`, in any socket-level environment
in which the clock advances in every iteration — whatever errors the socket calls return, whatever
bytes arrive or never arrive, whatever the outstanding TCP sockets answer — after at most
`n · (max_round_duration + 2)` iterations the loop has ended: with `Ok(())`, or earlier with an error
value (which `loop_error_recorded` shows in the `State`); never with a panic (`loop_never_panics`),
never still spinning.
-/
namespace TV.Props.StackLive
open TV.Strat TV.Stack TV.Props.Termination

/-- in the bound, the time the round in progress has lasted counts towards the first of the
`n - round` rounds still to come -/
theorem loop_returns_from {F : Type} [Agg.Num F] {c : Cfg} (hc : CfgOk c) (n : Nat) (hn : 1 ≤ n)
    (hm : c.maxRounds = some n) :
    ∀ (envs : List Env) (st : St F), Reach c st.ts → (∀ e ∈ envs, 1 ≤ e.dt) →
      (n - st.ts.round) * (c.maxRound + 2) ≤
        envs.length + min (st.ts.now - st.ts.roundStart) (c.maxRound + 1) →
      (Stack.loop c st envs).2.2 ≠ none := by
  intro envs st hs hdt hb h
  obtain ⟨aenvs, ha⟩ := Props.Stack.loop_run (c := c) envs st
  obtain ⟨hl, he⟩ := ha.none h
  have hdt' : ∀ a ∈ aenvs, 1 ≤ a.dt := fun a haa =>
    let ⟨e, hee, hd⟩ := ha.dt a haa
    hd ▸ hdt e hee
  exact returns_from hc n hn hm aenvs st.ts hs hdt' (by rw [hl]; exact hb) he

/-- **`Tracer::run` returns.** -/
theorem run_returns {F : Type} [Agg.Num F] (k : TracerCfg) (hc : CfgOk k.strat) (n : Nat) (hn : 1 ≤ n)
    (hm : k.strat.maxRounds = some n) (t0 : Nat) (envs : List Env) (hdt : ∀ e ∈ envs, 1 ≤ e.dt)
    (hlen : n * (k.strat.maxRound + 2) ≤ envs.length) :
    (Stack.run (F := F) k t0 envs).ended ≠ none := by
  rcases run_eq (F := F) k t0 envs with ⟨r, -, -, hrun⟩ | ⟨st0, ops, -, hts, -, hrun⟩
  · rw [hrun]
    simp
  · rw [hrun]
    refine loop_returns_from hc n hn hm envs st0 (hts ▸ .init t0) hdt ?_
    rw [hts]
    exact Nat.le_trans hlen (Nat.le_add_right _ _)

/-- the round counter of the stack's tracing state counts the rounds the loop has published -/
theorem loop_round_count {F : Type} [Agg.Num F] {c : Cfg} (hc : CfgOk c) :
    ∀ (envs : List Env) (st : St F), Reach c st.ts →
      (Stack.loop c st envs).1.ts.round = st.ts.round + (Props.Stack.published (Stack.loop c st envs).2.1).length := by
  intro envs st hs
  obtain ⟨aenvs, ha⟩ := Props.Stack.loop_run (c := c) envs st
  rw [← ha.state, (C09.run_round_count hc aenvs hs).1, Compose.publishedCount_eq, ha.outs,
    Props.Stack.published_eq]

/-- **C09 for the whole stack: exactly n rounds.**  With a round limit `n` the round counter of the
loop of `Tracer::run` never exceeds `n`, and is `n` when the loop returns `Ok(())` — whatever the
sockets did; by `loop_round_count` it counts the published rounds. -/
theorem loop_exactly_n_rounds {F : Type} [Agg.Num F] {c : Cfg} (hc : CfgOk c) (n : Nat) (hn : 1 ≤ n)
    (hm : c.maxRounds = some n) :
    ∀ (envs : List Env) (st : St F), Reach c st.ts → st.ts.round ≤ n →
      (Stack.loop c st envs).1.ts.round ≤ n ∧
      ((Stack.loop c st envs).2.2 = some (.ok ()) → (Stack.loop c st envs).1.ts.round = n) := by
  intro envs st hs hle
  obtain ⟨aenvs, ha⟩ := Props.Stack.loop_run (c := c) envs st
  obtain ⟨h1, hok⟩ := C09.run_round_le hc n hn hm aenvs hs hle
  rw [ha.state] at h1 hok
  exact ⟨h1, fun h => hok (ha.ok.mp h)⟩

/-- from the start of `Tracer::run`: `Ok(())` ⇒ exactly `n` rounds were published and folded into the `State` -/
theorem run_exactly_n_rounds {F : Type} [Agg.Num F] (k : TracerCfg) (hc : CfgOk k.strat) (n : Nat) (hn : 1 ≤ n)
    (hm : k.strat.maxRounds = some n) (t0 : Nat) (envs : List Env) :
    (Props.Stack.published (Stack.run (F := F) k t0 envs).outs).length ≤ n ∧
    ((Stack.run (F := F) k t0 envs).ended = some (.ok ()) →
      (Props.Stack.published (Stack.run (F := F) k t0 envs).outs).length = n) := by
  rcases run_eq (F := F) k t0 envs with ⟨r, hr, -, hrun⟩ | ⟨st0, ops, -, hts, -, hrun⟩
  · rw [hrun]
    exact ⟨Nat.zero_le n, fun h => absurd (Option.some.inj h) hr⟩
  · -- the round counter starts at 0 and counts the published rounds
    rw [hrun]
    have hs0 : Reach k.strat st0.ts := hts ▸ .init t0
    have hle := loop_exactly_n_rounds hc n hn hm envs st0 hs0 (by rw [hts]; exact Nat.zero_le n)
    rw [loop_round_count hc envs st0 hs0, hts, show (init k.strat t0).round = 0 from rfl, Nat.zero_add] at hle
    exact hle

/-- **C19 for the whole stack: every other configuration never sees checksums.**  Unless the trace is
Dublin over IPv4, no entry of any round `Tracer::run` publishes — whatever arrives on the sockets —
carries a UDP checksum pair; by `C19.status_unchanged_without_checksums` every hop of the `State`
therefore keeps the `NotApplicable` it starts with (`C19.fresh_hop_not_applicable`). -/
theorem loop_rounds_without_checksums {F : Type} [Agg.Num F] {c : Cfg} (hc : CfgOk c)
    (hna : c.strat ≠ .dublin ∨ c.v6 = true) : ∀ (envs : List Env) (st : St F), Reach c st.ts →
    ∀ r ∈ Props.Stack.published (Stack.loop c st envs).2.1, ∀ sl ∈ r.probes, Reagg.ckPair sl = none := by
  intro envs st hs r hr
  obtain ⟨_, _, _, _, h1, hit, hp⟩ := (Props.Stack.loop_published envs st hs).2 r hr
  exact C19Strat.published_round_without_checksums hc hna h1 hit r hp

end TV.Props.StackLive

#print axioms TV.Props.StackLive.loop_returns_from
#print axioms TV.Props.StackLive.run_returns
#print axioms TV.Props.StackLive.loop_round_count
#print axioms TV.Props.StackLive.loop_exactly_n_rounds
#print axioms TV.Props.StackLive.run_exactly_n_rounds
#print axioms TV.Props.StackLive.loop_rounds_without_checksums
