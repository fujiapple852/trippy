import TrippyVerif.Props.C08
import TrippyVerif.Props.C09
/-!
# C09, liveness half: with a round limit the tracer returns

"With a round limit n the tracer publishes exactly n rounds, numbered 0..n-1 in order, and returns
success whatever responses the network returns or withholds."  `C09.exactly_n_rounds` is the safety
half (success only after exactly n rounds, never more).  This file proves that the run *does* return:

`terminates`: for an ICMP or UDP trace, in every environment in which the clock advances in every
iteration (by at least one nanosecond — the wait inside `recv_probe`) and no fatal socket error
occurs — whatever responses arrive or stay away, genuine or forged, and whichever probes fail
transiently — a run of `n · (max_round_duration + 2)` iterations has ended with `Ok(())`, hence
(`exactly_n_rounds`) after exactly `n` published rounds.  The bound is in iterations; in time it is
C08 `never_held_open`: each round is published at the first check after `max_round_duration`.

TCP is left out of `terminates`: there an address-in-use outcome is no failure, but enough of them use up a
round's 512 sequence numbers and end the run with the capacity error (C07).  `returns` holds for every protocol.
-/
namespace TV.Props.Termination
open TV.Strat

/-- an iteration environment in which time passes and no outcome is fatal (or address-in-use, which ends an
ICMP / UDP run as well) -/
def Benign (e : IterEnv) : Prop :=
  (∀ o ∈ e.sends, o = .ok ∨ o = .probeFailed) ∧ e.recv ≠ .fatal ∧ 1 ≤ e.dt

/-- the send step cannot fail when no outcome is fatal or address-in-use (ICMP / UDP) -/
theorem sendRequest_benign {c : Cfg} (hc : CfgOk c) (hp : c.proto ≠ .tcp) {s : TS} (h : Inv c s)
    (sends : List SendOutcome) (hb : ∀ o ∈ sends, o = .ok ∨ o = .probeFailed) :
    ∃ v, sendRequest c s sends = .ok v := by
  by_cases hg : canSend c s = true
  · obtain ⟨p, hsr⟩ := sendRequest_non_tcp hc h hp hg
    have hho : (headOutcome sends).1 = .ok ∨ (headOutcome sends).1 = .probeFailed := by
      cases sends with
      | nil => left; rfl
      | cons o os => exact hb o (by simp)
    rw [hsr sends]
    rcases hho with ho | ho <;> rw [ho] <;> exact ⟨_, rfl⟩
  · simp [sendRequest_eq hc h, hg]

/-- an iteration in a benign environment neither fails nor panics -/
theorem iter_benign_ok {c : Cfg} (hc : CfgOk c) (hp : c.proto ≠ .tcp) {s : TS} (h : Inv c s)
    {e : IterEnv} (he : Benign e) : ∃ s' o, iter c s e = .ok (s', o) := by
  obtain ⟨⟨s1, lg⟩, hs⟩ := sendRequest_benign hc hp h e.sends he.1
  rw [iter_eq hc h, hs]
  simp only [he.2.1, if_false]
  exact ⟨_, _, rfl⟩

/-- the round's start never lies in the future -/
theorem roundStart_le_now {c : Cfg} (hc : CfgOk c) {s : TS} (hs : Reach c s) : s.roundStart ≤ s.now := by
  induction hs with
  | init t0 => simp [init]
  | step e o hs hit ih =>
    obtain ⟨s2, _, _, _, hpub, hnone⟩ := C08.publish_iff hc hs hit
    cases hp : o.published with
    | none =>
      obtain ⟨h1, h2⟩ := hnone hp
      omega
    | some r =>
      obtain ⟨_, _, h1, h2⟩ := hpub r hp
      omega

/-- the potential `(n − round)·(M+2) − min(now − round_start, M+1)` (`M` = max-round-duration: a round is published at
    the first check after `M`, so it lasts at most `M + 2` iterations of ≥ 1 ns) falls by at least one in every successful
    iteration in which time passes.  Stated without subtraction: if `L + 1` bounds it before, `L` bounds it afterwards
    (`L` is the number of iterations left in `returns_from`). -/
theorem potential_step {c : Cfg} (hc : CfgOk c) {n : Nat} {s s' : TS} (hs : Reach c s) {e : IterEnv}
    {o : IterOut} (hit : iter c s e = .ok (s', o)) (hdt : 1 ≤ e.dt) (hlt : s.round < n) {L : Nat}
    (hb : (n - s.round) * (c.maxRound + 2) ≤ L + 1 + min (s.now - s.roundStart) (c.maxRound + 1)) :
    (n - s'.round) * (c.maxRound + 2) ≤ L + min (s'.now - s'.roundStart) (c.maxRound + 1) := by
  have hrs := C09.round_step hc hs hit
  obtain ⟨s2, _, _, _, _, hnone⟩ := C08.publish_iff hc hs hit
  have hle := roundStart_le_now hc hs
  cases hp' : o.published with
  | some _ =>
    have hr' : s'.round = s.round + 1 := by simpa [hp'] using hrs
    have hsplit : (n - s.round) * (c.maxRound + 2) = (n - s'.round) * (c.maxRound + 2) + (c.maxRound + 2) := by
      have : n - s.round = (n - s'.round) + 1 := by omega
      rw [this, Nat.add_mul]
      simp
    have : min (s.now - s.roundStart) (c.maxRound + 1) ≤ c.maxRound + 1 := Nat.min_le_right _ _
    omega
  | none =>
    obtain ⟨h1, h2⟩ := hnone hp'
    have hr' : s'.round = s.round := by simpa [hp'] using hrs
    have hnot : ¬ ((s.now + e.dt) - s.roundStart > c.maxRound) := fun hex =>
      C08.never_held_open hc hs hit hex hp'
    rw [hr', h1, h2]
    omega

/-- potential zero means the round limit is reached (`0 +`: the bound of `returns_from` at the empty list) -/
theorem potential_zero {c : Cfg} {n : Nat} (hn : 1 ≤ n) (hm : c.maxRounds = some n) {s : TS}
    (hb : (n - s.round) * (c.maxRound + 2) ≤ 0 + min (s.now - s.roundStart) (c.maxRound + 1)) :
    finished s c.maxRounds = true := by
  have hz : n - s.round = 0 := by
    rcases Nat.eq_zero_or_pos (n - s.round) with h | h
    · exact h
    · exfalso
      have : 1 * (c.maxRound + 2) ≤ (n - s.round) * (c.maxRound + 2) := Nat.mul_le_mul_right _ h
      omega
  simp [finished, hm]
  omega

/-- **C09, liveness for every protocol and every environment in which time passes**: `run` has
    *returned* — with `Ok(())`, or earlier with the error of a fatal iteration — within the bound;
    it cannot be kept in the loop by anything the network sends, withholds or refuses. -/
theorem returns_from {c : Cfg} (hc : CfgOk c) (n : Nat) (hn : 1 ≤ n) (hm : c.maxRounds = some n) :
    ∀ (envs : List IterEnv) (s : TS), Reach c s → (∀ e ∈ envs, 1 ≤ e.dt) →
      (n - s.round) * (c.maxRound + 2) ≤ envs.length + min (s.now - s.roundStart) (c.maxRound + 1) →
      (run c s envs).ended ≠ none := by
  intro envs s hs hbn hb
  fun_induction run c s envs with
  | case1 s => simp [potential_zero hn hm (by simpa using hb)]
  | case2 s e es hf => simp
  | case3 s e es hf s1 o hit r ih =>
    have hlt : s.round < n := by simp [finished, hm] at hf; omega
    exact ih (.step e o hs hit) (fun e' he' => hbn e' (by simp [he']))
      (potential_step hc hs hit (hbn e (by simp)) hlt (by simp only [List.length_cons] at hb; omega))
  | case4 s e es hf er hit => simp
  | case5 s e es hf hit => simp

/-- from the start: any protocol, any environment list of `n·(max_round+2)` iterations in which the
    clock advances: the run has returned (and not by a panic: `C09.run_never_panics`). -/
theorem returns {c : Cfg} (hc : CfgOk c) (n : Nat) (hn : 1 ≤ n) (hm : c.maxRounds = some n) (t0 : Nat)
    (envs : List IterEnv) (hdt : ∀ e ∈ envs, 1 ≤ e.dt) (hlen : n * (c.maxRound + 2) ≤ envs.length) :
    (run c (init c t0) envs).ended ≠ none := by
  apply returns_from hc n hn hm envs _ (.init t0) hdt
  simp [init]
  omega

theorem run_benign {c : Cfg} (hc : CfgOk c) (hp : c.proto ≠ .tcp) :
    ∀ (envs : List IterEnv) (s : TS), Reach c s → (∀ e ∈ envs, Benign e) →
      (run c s envs).ended = none ∨ (run c s envs).ended = some (.ok ()) := by
  intro envs s hs hbn
  fun_induction run c s envs with
  | case1 s => split <;> simp
  | case2 s e es hf => exact Or.inr rfl
  | case3 s e es hf s1 o hit r ih => exact ih (.step e o hs hit) (fun e' he' => hbn e' (by simp [he']))
  | case4 s e es hf er hit =>
    obtain ⟨s', o, hok⟩ := iter_benign_ok hc hp (reach_inv hc hs) (hbn e (by simp))
    rw [hok] at hit
    cases hit
  | case5 s e es hf hit =>
    obtain ⟨s', o, hok⟩ := iter_benign_ok hc hp (reach_inv hc hs) (hbn e (by simp))
    rw [hok] at hit
    cases hit

/-- **C09, liveness.**  With a round limit `n`, from any reachable state with `s.round ≤ n`, every
    benign environment list of at least `(n − s.round)·(max_round + 2)` iterations (less the progress
    already made in the current round) brings `run` to `Ok(())`. -/
theorem terminates_from {c : Cfg} (hc : CfgOk c) (hp : c.proto ≠ .tcp) (n : Nat) (hn : 1 ≤ n)
    (hm : c.maxRounds = some n) :
    ∀ (envs : List IterEnv) (s : TS), Reach c s → (∀ e ∈ envs, Benign e) →
      (n - s.round) * (c.maxRound + 2) ≤ envs.length + min (s.now - s.roundStart) (c.maxRound + 1) →
      (run c s envs).ended = some (.ok ()) := by
  intro envs s hs hbn hb
  exact (run_benign hc hp envs s hs hbn).resolve_left
    (returns_from hc n hn hm envs s hs (fun e he => (hbn e he).2.2) hb)

/-- **C09, liveness (from the start).**  ICMP / UDP, round limit `n ≥ 1`: whatever the network
    returns or withholds, after `n · (max_round + 2)` benign iterations `run` has returned `Ok(())`. -/
theorem terminates {c : Cfg} (hc : CfgOk c) (hp : c.proto ≠ .tcp) (n : Nat) (hn : 1 ≤ n)
    (hm : c.maxRounds = some n) (t0 : Nat) (envs : List IterEnv) (hb : ∀ e ∈ envs, Benign e)
    (hlen : n * (c.maxRound + 2) ≤ envs.length) :
    (run c (init c t0) envs).ended = some (.ok ()) := by
  apply terminates_from hc hp n hn hm envs _ (.init t0) hb
  simp [init]
  omega

/-- … and then exactly `n` rounds were published (`exactly_n_rounds`; their numbering `0 .. n-1` is
    `C09.rounds_numbered`). -/
theorem terminates_with_n_rounds {c : Cfg} (hc : CfgOk c) (hp : c.proto ≠ .tcp) (n : Nat) (hn : 1 ≤ n)
    (hm : c.maxRounds = some n) (t0 : Nat) (envs : List IterEnv) (hb : ∀ e ∈ envs, Benign e)
    (hlen : n * (c.maxRound + 2) ≤ envs.length) :
    (run c (init c t0) envs).ended = some (.ok ()) ∧
    C09.publishedCount (run c (init c t0) envs).outs = n := by
  have h := terminates hc hp n hn hm t0 envs hb hlen
  exact ⟨h, (C09.exactly_n_rounds hc n hn hm t0 envs).2 h⟩

/-- the hypotheses are satisfiable: a silent network (no response ever), 1 ns per iteration -/
example : Benign { sends := [], dt := 1, recv := .none } := by simp [Benign]

end TV.Props.Termination

#print axioms TV.Props.Termination.sendRequest_benign
#print axioms TV.Props.Termination.iter_benign_ok
#print axioms TV.Props.Termination.roundStart_le_now
#print axioms TV.Props.Termination.potential_step
#print axioms TV.Props.Termination.returns_from
#print axioms TV.Props.Termination.returns
#print axioms TV.Props.Termination.terminates_from
#print axioms TV.Props.Termination.terminates
#print axioms TV.Props.Termination.terminates_with_n_rounds
