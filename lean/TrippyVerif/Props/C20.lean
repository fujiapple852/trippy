import TrippyVerif.Lemmas.Conc
import TrippyVerif.Gen.Locks
/-!
# C20 — snapshots are round-atomic while the tracer runs

Interleaving semantics: `Model/Conc.lean` (threads, a readers–writer lock, `update_from_round`
split into `m` micro-steps so that it is *not* atomic by itself).  The programs of `handler`,
`snapshot`, `clear` and `handle_error` are translated from tracer.rs on every run
(`Gen/Locks.lean`).  `parking_lot::RwLock` (mutual exclusion of writers with everyone) and the
memory model are assumed, not verified.
-/
namespace TV.Props.C20
open TV.Conc

/-- an initial system: any number of threads, thread `tr` runs the handler program, all others run
snapshot / clear / error programs; nothing applied yet -/
structure Initial (m tr : Nat) (s : Sys) : Prop where
  fresh : s.writer = none ∧ s.readers = [] ∧ s.mem = [] ∧ s.obs = []
  start : ∀ (i : Nat) (t : Th), s.ths[i]? = some t → t.pc = 0 ∧ t.micro = 0 ∧ t.iter = 0 ∧ t.hold = .none
  shapes : ∀ (i : Nat) (t : Th), s.ths[i]? = some t → i ≠ tr →
    t.body = snapshotShape ∨ t.body = clearShape ∨ t.body = errorShape
  tracer : ∃ T, s.ths[tr]? = some T ∧ T.body = handlerShape m

theorem inv_initial {m tr : Nat} {s : Sys} (h : Initial m tr s) : SysInv m tr s := by
  obtain ⟨hw, hr, hm, ho⟩ := h.fresh
  obtain ⟨T, hT, hTb⟩ := h.tracer
  obtain ⟨hTpc, _, hTiter, _⟩ := h.start tr T hT
  refine {
    ths := fun i t hi => ?_
    tracer := ⟨T, hT, hTb, .of_pc0 0 (Nat.zero_le _) hTpc (by rw [hm, hTiter]; rfl)⟩
    others := fun i t hi x => ?_
    excl := fun i x => by rw [hw] at x; cases x
    nodup := hr ▸ List.nodup_nil
    obs := fun o x => by rw [ho] at x; cases x }
  · obtain ⟨p, mi, _, hd⟩ := h.start i t hi
    have hshape : t.body = snapshotShape ∨ t.body = clearShape ∨ t.body = errorShape ∨
        t.body = handlerShape m := by
      by_cases x : i = tr
      · subst x
        rw [hi] at hT
        cases hT
        exact Or.inr (Or.inr (Or.inr hTb))
      · exact (h.shapes i t hi x).imp_right (Or.imp_right Or.inl)
    exact {
      shape := hshape
      pc_lt := by omega
      idle := fun _ => hd
      busyR := fun _ x => by omega
      busyW := fun _ x => by omega
      micro0 := fun _ => mi
      microLt := fun x _ => by omega
      holdW := by simp [hd, hw]
      holdR := by simp [hd, hr] }
  · rcases h.shapes i t hi x with e | e | e
    · exact e ▸ snapshotShape_ne_handlerShape m
    · exact e ▸ clearShape_ne_handlerShape m
    · exact e ▸ errorShape_ne_handlerShape m

/-- **C20 (lock model).** In every interleaving (schedule) of the tracer thread's round
publication with any number of threads calling `snapshot()`, `clear()` and `handle_error`, every
snapshot ever taken equals a whole number of consecutive published rounds applied to an empty
state: never part of a round, never a mixture of data from before and after a clear. -/
theorem snapshots_round_atomic {m tr : Nat} {s : Sys} (h : Initial m tr s) (sched : List Nat) :
    ∀ o ∈ (runSched s sched).obs, Whole m o :=
  (inv_runSched sched (inv_initial h)).obs

/-- the programs translated from tracer.rs are the canonical shapes, for every `m` -/
theorem generated_programs_round_atomic (m : Nat) :
    Gen.handlerProg m = handlerShape m ∧ Gen.snapshotProg m = snapshotShape ∧
    Gen.clearProg m = clearShape ∧ Gen.handle_errorProg m = errorShape := ⟨rfl, rfl, rfl, rfl⟩

def realSystem (m : Nat) (others : List (List Instr)) : Sys :=
  { ths := { body := Gen.handlerProg m } :: others.map fun b => { body := b } }

theorem realSystem_thread {m : Nat} {others : List (List Instr)} {i : Nat} {t : Th}
    (hi : (realSystem m others).ths[i]? = some t) :
    ∃ b, t = { body := b } ∧
      (i = 0 ∧ b = Gen.handlerProg m ∨ ∃ j, i = j + 1 ∧ others[j]? = some b) := by
  cases i with
  | zero =>
    cases hi
    exact ⟨_, rfl, .inl ⟨rfl, rfl⟩⟩
  | succ j =>
    rw [realSystem, List.getElem?_cons_succ, List.getElem?_map, Option.map_eq_some_iff] at hi
    obtain ⟨b, hb, rfl⟩ := hi
    exact ⟨b, rfl, .inr ⟨j, rfl, hb⟩⟩

theorem real_system_round_atomic (m : Nat) (others : List (List Instr))
    (ho : ∀ b ∈ others, b = Gen.snapshotProg m ∨ b = Gen.clearProg m ∨ b = Gen.handle_errorProg m)
    (sched : List Nat) : ∀ o ∈ (runSched (realSystem m others) sched).obs, Whole m o := by
  apply snapshots_round_atomic (tr := 0)
  refine { fresh := ⟨rfl, rfl, rfl, rfl⟩, start := ?_, shapes := ?_, tracer := ⟨_, rfl, rfl⟩ }
  · intro i t hi
    obtain ⟨b, rfl, _⟩ := realSystem_thread hi
    exact ⟨rfl, rfl, rfl, rfl⟩
  · intro i t hi hne
    obtain ⟨b, rfl, ⟨rfl, _⟩ | ⟨j, _, hb⟩⟩ := realSystem_thread hi
    · exact absurd rfl hne
    · exact ho b (List.mem_of_getElem? hb)

/-! ## what goes wrong without the discipline (the semantics does exhibit torn snapshots) -/

/-- per-part locking: the round is applied in two write sections -/
def perPartHandler : List Instr := [.acqW, .upd 0 1, .rel, .acqW, .upd 1 2, .rel]

theorem not_whole_half : ¬ Whole 2 [(0, 0)] := by
  rintro ⟨c, k, h⟩
  have := congrArg List.length h
  rw [wholeRounds_length] at this
  simp at this
  omega

/-- a torn snapshot for per-part locking: tracer does its first section, a reader snapshots -/
theorem per_part_locking_tears :
    ∃ o ∈ (runSched { ths := [{ body := perPartHandler }, { body := snapshotShape }] }
      [0, 0, 0, 1, 1, 1]).obs, ¬ Whole 2 o :=
  ⟨[(0, 0)], by decide, not_whole_half⟩

/-- a handler that does not take the lock at all -/
theorem unlocked_update_tears :
    ∃ o ∈ (runSched { ths := [{ body := [.upd 0 2] }, { body := snapshotShape }] }
      [0, 1, 1, 1]).obs, ¬ Whole 2 o :=
  ⟨[(0, 0)], by decide, not_whole_half⟩

-- non-vacuity: a concrete run of the real system with two readers and a clearer
example : (runSched (realSystem 3 [Gen.snapshotProg 3, Gen.clearProg 3, Gen.snapshotProg 3])
    [0,0,1,0,0,0, 1,1,1, 2,2,2, 0,0,3,0,0,0, 3,3,3, 0,0,0,0,0, 1,1,1]).obs =
    [[(0, 0), (0, 1), (0, 2)], [(1, 0), (1, 1), (1, 2)],
     [(1, 0), (1, 1), (1, 2), (2, 0), (2, 1), (2, 2)]] := by
  decide

end TV.Props.C20

#print axioms TV.Props.C20.snapshots_round_atomic
#print axioms TV.Props.C20.generated_programs_round_atomic
#print axioms TV.Props.C20.real_system_round_atomic
#print axioms TV.Props.C20.per_part_locking_tears
#print axioms TV.Props.C20.unlocked_update_tears
