import TrippyVerif.Lemmas.WireParse
/-!
# C04 (receive half) — no inbound packet, however malformed, can crash the tracer

"Whatever bytes arrive on the receive socket - truncated, oversized, with inconsistent length
fields, hostile nested headers or extension objects - the receive path returns (a response,
nothing, or an error value) without panicking, overflowing or looping, in every configuration.
The same holds for every accessor of every packet view over an arbitrary buffer of at least the
minimum header size."

Model: `TV.Wire.recvIcmp` (`recv_icmp_probe` → `extract_probe_resp` → `extract_probe_proto_resp` →
`extract_echo_request` / `extract_udp_packet` / `extract_tcp_packet` /
`udp_payload_has_magic_prefix`, with the RFC 4884 split and `Extensions::try_from` of
`TV.Ext`, repaired code `Ext.codeIsFixed`), `TV.Wire.recvTcp`, and the slice accessors
`TV.Wire.{ipv4Payload, ipv4OptionsRaw, ipv6Payload, udpPayload, tcpPayload, tcpOptionsRaw,
echoPayload}`.  Every other accessor of every view (the fixed-offset getters/setters) is covered
by the generated C12 theorems; the extension views by C14.

* no bound on the number of bytes is needed (the model has none; the code reads at most
  `MAX_PACKET_SIZE` octets from the socket).
* `c.AddrOk`: the configured source/target are 4 (IPv4) resp. 16 (IPv6) octets — true of every
  `Ipv4Addr` / `Ipv6Addr`; needed because the checksum model treats a wrong-size address as a
  type error.
* IPv6: `ipv6.rs:204` contains `SocketAddr::V4(_) => panic!()` for the address returned by
  `recv_from`.  An `AF_INET6` socket never reports an `AF_INET` peer, so this is a statement about
  the kernel, not about the bytes: the hypothesis `src.length ≠ 4` (`[]` = no address, which is the
  error value `MissingAddr`).  `recv_v6_v4_sockaddr_panics` shows the hypothesis is necessary.
* "without looping": every function of the model is a total Lean function — structural recursion
  or well-founded recursion with a proved decrease (`Ext.objectsFrom`); this file and the model
  files compile without `partial`.
-/
namespace TV.Props.C04
open TV.Wire

/-- **C04, receive path.**  For every configuration (protocol, family, extension mode, privilege,
size, pattern, …) and every octet string delivered by the receive socket, `recv_icmp_probe`
returns a response, nothing, or an error value — never a panic. -/
theorem recv_never_panics (c : ChanCfg) (hc : c.AddrOk) (bytes src : Buf)
    (hsrc : c.v6 = true → src.length ≠ 4) : recvIcmp c bytes src ≠ .panic := by
  unfold recvIcmp
  split
  next hv => exact recvIcmp6_ne_panic c hc bytes src (hsrc hv)
  next => exact recvIcmp4_ne_panic c hc bytes

/-- IPv4: no side condition on the reported address (it is not used) -/
theorem recv_never_panics_v4 (c : ChanCfg) (hc : c.AddrOk) (hv : c.v6 = false) (bytes src : Buf) :
    recvIcmp c bytes src ≠ .panic :=
  recv_never_panics c hc bytes src (by simp [hv])

/-- the outcome is one of the three the property allows -/
theorem recv_outcome (c : ChanCfg) (hc : c.AddrOk) (bytes src : Buf)
    (hsrc : c.v6 = true → src.length ≠ 4) :
    (∃ r, recvIcmp c bytes src = .ok (some r)) ∨ recvIcmp c bytes src = .ok none ∨
    (∃ e, recvIcmp c bytes src = .err e) := by
  have := recv_never_panics c hc bytes src hsrc
  cases h : recvIcmp c bytes src with
  | ok o => cases o with
    | none => exact .inr (.inl rfl)
    | some r => exact .inl ⟨r, rfl⟩
  | err e => exact .inr (.inr ⟨e, rfl⟩)
  | panic => exact absurd h this

/-- the `panic!()` arm of `ipv6.rs` is real: were the socket to report an IPv4 peer for a message
of at least 8 octets, the code would panic (so `hsrc` cannot be dropped) -/
theorem recv_v6_v4_sockaddr_panics (c : ChanCfg) (hv : c.v6 = true) (bytes : Buf)
    (h : 8 ≤ bytes.length) (a0 a1 a2 a3 : UInt8) :
    recvIcmp c bytes [a0, a1, a2, a3] = .panic := by
  have : ¬ bytes.length < 8 := by omega
  simp [recvIcmp, hv, recvIcmp6, this]

/-- the stages below the socket never panic either, on any input -/
theorem stages_never_panic (c : ChanCfg) (hc : c.AddrOk) (b src : Buf) :
    protoResp c b ≠ .panic ∧
    (8 ≤ b.length → extractProbeResp c b src ≠ .panic) ∧
    extractEchoRequest b ≠ .panic ∧ extractUdp b ≠ .panic ∧ extractTcp4 b ≠ .panic ∧
    extractTcp6 b ≠ .panic ∧ udpHasMagic b ≠ .panic ∧
    (∀ sp dp plen, calcUdpChecksum c sp dp plen ≠ .panic) :=
  ⟨protoResp_ne_panic c hc b, extractProbeResp_ne_panic c hc b src, extractEchoRequest_ne_panic b,
   extractUdp_ne_panic b, extractTcp4_ne_panic b, extractTcp6_ne_panic b, udpHasMagic_ne_panic b,
   fun sp dp plen => by
    obtain ⟨ck, h⟩ := calcUdpChecksum_ok c hc sp dp plen
    simp [h]⟩

/-- `recv_tcp_socket` is a finite case distinction -/
theorem recvTcp_never_panics (c : ChanCfg) (sp dp : Nat) (s : TcpSock) :
    recvTcp c sp dp s ≠ .panic := by
  cases s with
  | connected p => cases p <;> simp [recvTcp]
  | refused => simp [recvTcp]
  | hostUnreachable a => simp [recvTcp]
  | other => simp [recvTcp]

/-- **C04, slice accessors.**  Every slice accessor used on the receive path is total on a view
of at least the minimum header size, whatever the header-length / data-offset / payload-length
octets say, and returns a part of the buffer. -/
theorem slice_accessors_total (b : Buf) :
    (20 ≤ b.length → ∃ r, ipv4Payload b = .ok r ∧ r <:+ b) ∧
    (20 ≤ b.length → ∃ r, ipv4OptionsRaw b = .ok r ∧ r <:+: b) ∧
    (40 ≤ b.length → ∃ r, ipv6Payload b = .ok r ∧ r <:+: b) ∧
    (8 ≤ b.length → ∃ r, udpPayload b = .ok r ∧ r <:+ b) ∧
    (8 ≤ b.length → ∃ r, echoPayload b = .ok r ∧ r <:+ b) ∧
    (20 ≤ b.length → tcpPayload b ≠ .panic) ∧
    (20 ≤ b.length → tcpOptionsRaw b ≠ .panic) := by
  refine ⟨?_, ?_, ?_, ?_, ?_, tcpPayload_ne_panic b, tcpOptionsRaw_ne_panic b⟩
  · intro h
    exact ⟨_, ipv4Payload_ok b (by omega), List.drop_suffix _ _⟩
  · intro h
    exact ⟨_, ipv4OptionsRaw_ok b h, (List.drop_suffix _ _).isInfix.trans (List.take_prefix _ _).isInfix⟩
  · intro h
    refine ⟨_, ipv6Payload_ok b (by omega), ?_⟩
    split
    · exact ⟨[], b, by simp⟩
    · exact (List.drop_suffix _ _).isInfix.trans (List.take_prefix _ _).isInfix
  · exact fun h => ⟨_, udpPayload_ok b h, List.drop_suffix _ _⟩
  · exact fun h => ⟨_, echoPayload_ok b h, List.drop_suffix _ _⟩

/-- F1 (repaired): `Ipv4Packet::payload` with a header length beyond the buffer returns the empty
slice instead of slicing out of range: IHL 15 on a 20-octet buffer. -/
theorem ipv4Payload_ihl_beyond_buffer :
    ipv4Payload (0x4f :: List.replicate 19 0) = .ok [] := by
  rw [ipv4Payload_ok _ (by simp)]
  decide

def sampleCfg : ChanCfg :=
  { v6 := false, src := [10, 0, 0, 1], dst := [10, 0, 0, 7], packetSize := 84, pattern := 0,
    privileged := true, tos := 0, proto := .udp, extEnabled := true, initialSeq := 33434 }

example : sampleCfg.AddrOk := by decide

/-- a hostile datagram: Time Exceeded, length attribute 255, nested IHL 15 — answered with an error
value -/
example : recvIcmp sampleCfg
    ([0x45, 0, 0, 36, 0, 0, 0, 0, 64, 1, 0, 0, 10, 0, 0, 9, 10, 0, 0, 1] ++
     [11, 0, 0, 0, 0, 255, 0, 0] ++ [0x4f, 0, 0, 0, 0, 0, 0, 0]) [] = .err .pktShort := by
  decide

example : recvIcmp { sampleCfg with v6 := true, src := List.replicate 16 1, dst := List.replicate 16 2 }
    [3, 0, 0, 0, 255, 0, 0, 0] [] = .err .missingAddr := by decide

end TV.Props.C04

#print axioms TV.Props.C04.recv_never_panics
#print axioms TV.Props.C04.recv_never_panics_v4
#print axioms TV.Props.C04.recv_outcome
#print axioms TV.Props.C04.recv_v6_v4_sockaddr_panics
#print axioms TV.Props.C04.stages_never_panic
#print axioms TV.Props.C04.recvTcp_never_panics
#print axioms TV.Props.C04.slice_accessors_total
#print axioms TV.Props.C04.ipv4Payload_ihl_beyond_buffer
