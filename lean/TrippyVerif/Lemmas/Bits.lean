import TrippyVerif.Spec.Bits
/-!
The RFC field specification of `Spec/Bits.lean`: `replaceBV` bit by bit; read-back, length and frame of `setField`; the
closed forms of `wordBV` (hence of `getField`) for words of 1–4 octets, which the translated accessors are compared with.
-/

namespace TV.Spec

theorem replaceBV_getLsbD {N : Nat} (x : BitVec N) (sh w : Nat) (v : BitVec w) (i : Nat) :
    (replaceBV x sh w v).getLsbD i =
      if sh ≤ i ∧ i < sh + w ∧ i < N then v.getLsbD (i - sh) else x.getLsbD i := by
  unfold replaceBV
  simp only [BitVec.getLsbD_or, BitVec.getLsbD_and, BitVec.getLsbD_not, BitVec.getLsbD_shiftLeft,
    BitVec.getLsbD_setWidth, BitVec.getLsbD_allOnes]
  by_cases hN : i < N
  · by_cases h1 : i < sh
    · simp [hN, h1, Nat.not_le.2 h1]
    · by_cases h2 : i - sh < w
      · have : i < sh + w := by omega
        simp [hN, h1, h2, this, Nat.le_of_not_lt h1, show i - sh < N by omega]
      · have : ¬ i < sh + w := by omega
        simp [hN, h1, h2, this, BitVec.getLsbD_of_ge v (i - sh) (Nat.le_of_not_lt h2)]
  · simp [hN, BitVec.getLsbD_of_ge x i (Nat.le_of_not_lt hN)]

theorem replaceBV_frame {N : Nat} (x : BitVec N) (sh w : Nat) (v : BitVec w) (i : Nat)
    (h : i < sh ∨ sh + w ≤ i) : (replaceBV x sh w v).getLsbD i = x.getLsbD i := by
  rw [replaceBV_getLsbD, if_neg (by omega)]

theorem extract_replaceBV {N : Nat} (x : BitVec N) (sh w : Nat) (v : BitVec w) (h : sh + w ≤ N) :
    (replaceBV x sh w v).extractLsb' sh w = v := by
  ext i hi
  simp only [BitVec.getElem_extractLsb', replaceBV_getLsbD]
  rw [if_pos (by omega)]
  simp [BitVec.getLsbD_eq_getElem hi]

theorem replaceBV_full {N : Nat} (x v : BitVec N) : replaceBV x 0 N v = v := by
  have := extract_replaceBV x 0 N v (by omega)
  rwa [BitVec.extractLsb'_eq_self] at this

@[simp] theorem length_putBV (b : Buf) (k n : Nat) (x : BitVec (8 * n)) :
    (putBV b k n x).length = b.length := by
  induction n with
  | zero => rfl
  | succ n ih => simp [putBV, ih]

theorem octet_set_ne (b : Buf) (i j : Nat) (v : UInt8) (h : i ≠ j) :
    octet (b.set i v) j = octet b j := by
  simp [octet, List.getD_eq_getElem?_getD, List.getElem?_set_ne h]

theorem octet_set_eq (b : Buf) (i : Nat) (v : UInt8) (h : i < b.length) :
    octet (b.set i v) i = v := by
  simp [octet, List.getD_eq_getElem?_getD, h]

theorem octet_putBV_outside (b : Buf) (k n : Nat) (x : BitVec (8 * n)) (j : Nat)
    (h : j < k ∨ k + n ≤ j) : octet (putBV b k n x) j = octet b j := by
  induction n with
  | zero => rfl
  | succ n ih =>
    simp only [putBV]
    rw [octet_set_ne _ _ _ _ (by omega)]
    exact ih _ (by omega)

theorem wordBV_congr (b1 b2 : Buf) (k n : Nat)
    (h : ∀ i, i < n → octet b1 (k + i) = octet b2 (k + i)) : wordBV b1 k n = wordBV b2 k n := by
  induction n with
  | zero => rfl
  | succ n ih =>
    simp only [wordBV]
    rw [ih (fun i hi => h i (by omega)), h n (by omega)]

theorem wordBV_putBV (b : Buf) (k n : Nat) (x : BitVec (8 * n)) (h : k + n ≤ b.length) :
    wordBV (putBV b k n x) k n = x := by
  induction n with
  | zero => exact (BitVec.of_length_zero).symm
  | succ n ih =>
    simp only [putBV, wordBV]
    have hlen : k + n < (putBV b k n (x.extractLsb' 8 (8 * n))).length := by
      rw [length_putBV]
      omega
    rw [octet_set_eq _ _ _ hlen]
    rw [wordBV_congr _ (putBV b k n (x.extractLsb' 8 (8 * n))) k n
      (fun i hi => octet_set_ne _ _ _ _ (by omega))]
    rw [ih _ (by omega)]
    ext i hi
    simp only [BitVec.getElem_cast, BitVec.getElem_append]
    by_cases h8 : i < 8
    · simp [h8, BitVec.getLsbD_eq_getElem hi]
    · have h9 : 8 + (i - 8) = i := by omega
      simp [h8, h9, BitVec.getLsbD_eq_getElem hi]

theorem getField_setField (b : Buf) (k n sh w : Nat) (v : BitVec w)
    (hlen : k + n ≤ b.length) (hw : sh + w ≤ 8 * n) :
    getField (setField b k n sh w v) k n sh w = v := by
  unfold getField setField
  rw [wordBV_putBV _ _ _ _ hlen, extract_replaceBV _ _ _ _ hw]

@[simp] theorem length_setField (b : Buf) (k n sh w : Nat) (v : BitVec w) :
    (setField b k n sh w v).length = b.length := by simp [setField]

theorem octet_setField_outside (b : Buf) (k n sh w : Nat) (v : BitVec w) (j : Nat)
    (h : j < k ∨ k + n ≤ j) : octet (setField b k n sh w v) j = octet b j :=
  octet_putBV_outside _ _ _ _ _ h

theorem getField_setField_disjoint (b : Buf) (k n sh w sh' w' : Nat) (v : BitVec w)
    (hlen : k + n ≤ b.length) (hd : sh' + w' ≤ sh ∨ sh + w ≤ sh') :
    getField (setField b k n sh w v) k n sh' w' = getField b k n sh' w' := by
  unfold getField setField
  rw [wordBV_putBV _ _ _ _ hlen]
  ext i hi
  simp only [BitVec.getElem_extractLsb']
  exact replaceBV_frame _ _ _ _ _ (by omega)

theorem wordBV_getLsbD (b : Buf) (k n i : Nat) (hi : i < 8 * n) :
    (wordBV b k n).getLsbD i = (octet b (k + (n - 1 - i / 8))).toBitVec.getLsbD (i % 8) := by
  induction n generalizing i with
  | zero => omega
  | succ n ih =>
    simp only [wordBV, BitVec.getLsbD_cast, BitVec.getLsbD_append]
    by_cases h8 : i < 8
    · have h1 : i / 8 = 0 := by omega
      have h2 : i % 8 = i := by omega
      simp [h8, h1, h2]
    · have h1 : (i - 8) / 8 = i / 8 - 1 := by omega
      have h2 : (i - 8) % 8 = i % 8 := by omega
      have h3 : n - 1 - (i / 8 - 1) = n + 1 - 1 - i / 8 := by omega
      rw [if_neg h8, ih (i - 8) (by omega), h1, h2, h3]

theorem bitAt_setField_outside (b : Buf) (k n sh w : Nat) (v : BitVec w) (j : Nat)
    (hlen : k + n ≤ b.length) (hw : sh + w ≤ 8 * n)
    (hj : j < 8 * (k + n) - sh - w ∨ 8 * (k + n) - sh ≤ j) :
    bitAt (setField b k n sh w v) j = bitAt b j := by
  unfold bitAt
  by_cases hout : j / 8 < k ∨ k + n ≤ j / 8
  · rw [octet_setField_outside _ _ _ _ _ _ _ hout]
  · have hm : k ≤ j / 8 ∧ j / 8 < k + n := by omega
    have hr : j % 8 < 8 := Nat.mod_lt _ (by omega)
    -- position of bit j inside the word, counted from the least significant bit
    let i := 8 * (k + n) - 1 - j
    have hi : i < 8 * n := by omega
    have hidx : k + (n - 1 - i / 8) = j / 8 := by omega
    have hmod : i % 8 = 7 - j % 8 := by omega
    have key : ∀ b' : Buf, (octet b' (j / 8)).toBitVec.getMsbD (j % 8)
        = (wordBV b' k n).getLsbD i := by
      intro b'
      rw [wordBV_getLsbD _ _ _ _ hi, hidx, hmod, BitVec.getMsbD]
      simp [hr]
    rw [key, key]
    unfold setField
    rw [wordBV_putBV _ _ _ _ hlen]
    exact replaceBV_frame _ _ _ _ _ (by omega)

/-- `x = y` at a literal width `n`, by extensionality: `∀ i < n` is unrolled into the `n` positions and `simp` computes
each bit. `wordBV_getLsbD` serves the closed forms of `wordBV` below only. -/
macro "bv_bits" : tactic => `(tactic| (
  apply BitVec.eq_of_getLsbD_eq
  simp (disch := omega) only [Nat.forall_lt_succ_right, Nat.not_lt_zero, false_imp_iff, implies_true, true_and,
    wordBV_getLsbD]
  simp))

/-! concatenation of octets written with shifts, so that no arithmetic appears in types; a normal form only, which
`bits_close` always unfolds -/

def cat2 (x y : BitVec 8) : BitVec 16 := (x.setWidth 16 <<< 8) ||| y.setWidth 16
def cat3 (x y z : BitVec 8) : BitVec 24 := (x.setWidth 24 <<< 16) ||| (y.setWidth 24 <<< 8) ||| z.setWidth 24
def cat4 (x y z u : BitVec 8) : BitVec 32 :=
  (x.setWidth 32 <<< 24) ||| (y.setWidth 32 <<< 16) ||| (z.setWidth 32 <<< 8) ||| u.setWidth 32

theorem wordBV_one (b : Buf) (k : Nat) : wordBV b k 1 = (octet b k).toBitVec := by
  bv_bits

theorem wordBV_two (b : Buf) (k : Nat) :
    wordBV b k 2 = cat2 (octet b k).toBitVec (octet b (k + 1)).toBitVec := by
  simp only [cat2]
  bv_bits

theorem wordBV_three (b : Buf) (k : Nat) :
    wordBV b k 3 = cat3 (octet b k).toBitVec (octet b (k + 1)).toBitVec (octet b (k + 2)).toBitVec := by
  simp only [cat3]
  bv_bits

theorem wordBV_four (b : Buf) (k : Nat) :
    wordBV b k 4 = cat4 (octet b k).toBitVec (octet b (k + 1)).toBitVec (octet b (k + 2)).toBitVec
      (octet b (k + 3)).toBitVec := by
  simp only [cat4]
  bv_bits

end TV.Spec
