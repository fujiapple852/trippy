import TrippyVerif.Model.Checksum
import TrippyVerif.Spec.Rfc1071
/-!
Helper lemmas for C13 (model of checksum.rs = RFC 1071).  Lists are taken two octets at a time, as
`wordSum` recurses: `induction d using wordSum.induct`.
-/
namespace TV.Cksum
open TV.Rfc1071

/-- every fact about `fold16` below is linear arithmetic over this -/
theorem fold16_spec (n : Nat) :
    (n = 0 ∧ fold16 n = 0) ∨
    (n ≠ 0 ∧ 1 ≤ fold16 n ∧ fold16 n ≤ 65535 ∧ fold16 n % 65535 = n % 65535) := by
  unfold fold16
  split
  · omega
  · split <;> omega

theorem fold16_le (n : Nat) : fold16 n ≤ 65535 := by
  have := fold16_spec n
  omega

theorem fold16_small {n : Nat} (h : n < 65536) : fold16 n = n := by
  have := fold16_spec n
  omega

theorem fold16_carry (n : Nat) : fold16 (n / 65536 + n % 65536) = fold16 n := by
  have := fold16_spec n
  have := fold16_spec (n / 65536 + n % 65536)
  omega

theorem fold16_compl (s : Nat) : fold16 (s + (65535 - fold16 s)) = 65535 := by
  have := fold16_spec s
  have := fold16_spec (s + (65535 - fold16 s))
  omega

theorem finLoop_eq_fold16 (n : Nat) : finLoop n = fold16 n := by
  fun_induction finLoop n with
  | case1 n h ih =>
    rw [ih, and_ffff, shr16]
    exact fold16_carry n
  | case2 n h =>
    rw [shr16] at h
    have : n / 65536 = 0 := by simpa using h
    exact (fold16_small (by omega)).symm

theorem finLoop_lt (n : Nat) : finLoop n < 65536 := by
  have := fold16_le n
  rw [finLoop_eq_fold16]
  omega

theorem finalize_eq (n : Nat) : finalize n = 0xFFFF - fold16 n := by
  unfold finalize
  rw [finLoop_eq_fold16]
  have := fold16_le n
  omega

/-- the words summed by the `while` loop (the odd tail is left over) -/
def evenSum : List UInt8 → Nat
  | a :: b :: rest => be16n a b + evenSum rest
  | _ => 0

theorem evenSum_nil : evenSum [] = 0 := rfl

theorem evenSum_single (a : UInt8) : evenSum [a] = 0 := rfl

theorem evenSum_cons2 (a b : UInt8) (r : List UInt8) :
    evenSum (a :: b :: r) = be16n a b + evenSum r := rfl

def lastOdd : List UInt8 → Nat
  | [] => 0
  | [a] => a.toNat * 256
  | _ :: _ :: rest => lastOdd rest

theorem wordSum_eq_even_add_last (d : List UInt8) : wordSum d = evenSum d + lastOdd d := by
  induction d using wordSum.induct with
  | case1 => rfl
  | case2 a => simp [wordSum, evenSum_single, lastOdd]
  | case3 a b r ih =>
    simp only [wordSum, evenSum_cons2, lastOdd, be16n, ih]
    omega

theorem zeroField_nil (k : Nat) : zeroField k [] = [] := by simp [zeroField]

theorem zeroField_single (k : Nat) (a : UInt8) :
    zeroField k [a] = if k = 0 then [0] else [a] := by
  cases k with
  | zero => simp [zeroField]
  | succ k =>
    have h1 : 2 * (k + 1) = (2 * k + 1) + 1 := by omega
    simp [zeroField, h1]

theorem putField_cons2_zero (c : Nat) (a b : UInt8) (r : List UInt8) :
    putField 0 c (a :: b :: r) = UInt8.ofNat (c / 256) :: UInt8.ofNat (c % 256) :: r := by
  simp [putField]

theorem putField_cons2_succ (k c : Nat) (a b : UInt8) (r : List UInt8) :
    putField (k + 1) c (a :: b :: r) = a :: b :: putField k c r := by
  have h1 : 2 * (k + 1) = (2 * k + 1) + 1 := by omega
  simp [putField, h1]

theorem zeroField_eq_putField (k : Nat) (d : List UInt8) : zeroField k d = putField k 0 d := rfl

theorem zeroField_cons2_zero (a b : UInt8) (r : List UInt8) :
    zeroField 0 (a :: b :: r) = 0 :: 0 :: r :=
  (zeroField_eq_putField 0 _).trans (putField_cons2_zero 0 a b r)

theorem zeroField_cons2_succ (k : Nat) (a b : UInt8) (r : List UInt8) :
    zeroField (k + 1) (a :: b :: r) = a :: b :: zeroField k r :=
  (zeroField_eq_putField _ _).trans (putField_cons2_succ k 0 a b r)

theorem zeroField_length (k : Nat) (d : List UInt8) :
    (zeroField k d).length = d.length := by simp [zeroField]

theorem lastOdd_zeroField : ∀ (d : List UInt8) (k : Nat),
    lastOdd (zeroField k d) = if d.length / 2 = k then 0 else lastOdd d := by
  intro d
  induction d using wordSum.induct with
  | case1 =>
    intro k
    simp [zeroField_nil, lastOdd]
  | case2 a =>
    intro k
    rw [zeroField_single]
    cases k <;> simp [lastOdd]
  | case3 a b r ih =>
    intro k
    have hl : (a :: b :: r).length / 2 = r.length / 2 + 1 := by
      simp only [List.length_cons]; omega
    cases k with
    | zero =>
      rw [zeroField_cons2_zero, hl]
      simp [lastOdd]
    | succ k =>
      rw [zeroField_cons2_succ, hl]
      simp [lastOdd, ih]

theorem lastOdd_cases (d : List UInt8) :
    (d.length % 2 = 0 ∧ lastOdd d = 0) ∨
    (d.length % 2 = 1 ∧ ∃ x, rd d (d.length - 1) = .ok x ∧ lastOdd d = x.toNat * 256) := by
  induction d using wordSum.induct with
  | case1 => exact .inl ⟨rfl, rfl⟩
  | case2 a => exact .inr ⟨rfl, a, by simp [rd], rfl⟩
  | case3 a b r ih =>
    simp only [List.length_cons, lastOdd]
    rcases ih with ⟨h, e⟩ | ⟨h, x, hx, e⟩
    · exact .inl ⟨by omega, e⟩
    · refine .inr ⟨by omega, x, ?_, e⟩
      obtain ⟨m, hm⟩ : ∃ m, r.length = m + 1 := ⟨r.length - 1, by omega⟩
      simp only [rd, hm] at hx ⊢
      simpa using hx

theorem wordSum_eq_evenSum {d : List UInt8} (h : d.length % 2 = 0) : wordSum d = evenSum d := by
  rcases lastOdd_cases d with ⟨_, e⟩ | ⟨h', _⟩
  · rw [wordSum_eq_even_add_last, e, Nat.add_zero]
  · omega

theorem be16n_le (a b : UInt8) : be16n a b ≤ 65535 := by
  have := a.toNat_lt
  have := b.toNat_lt
  unfold be16n
  omega

theorem wordSum_le (d : List UInt8) : wordSum d ≤ 65535 * ((d.length + 1) / 2) := by
  induction d using wordSum.induct with
  | case1 => simp [wordSum]
  | case2 a =>
    have := a.toNat_lt
    simp only [wordSum, List.length_cons, List.length_nil]
    omega
  | case3 a b r ih =>
    have := a.toNat_lt
    have := b.toNat_lt
    simp only [wordSum, List.length_cons]
    omega

theorem wordSum_append_even (a b : List UInt8) (h : a.length % 2 = 0) :
    wordSum (a ++ b) = wordSum a + wordSum b := by
  induction a using wordSum.induct with
  | case1 => simp [wordSum]
  | case2 x => simp at h
  | case3 x y r ih =>
    simp only [List.length_cons] at h
    simp only [List.cons_append, wordSum, ih (by omega)]
    omega

/-- the one place where the value of `U32` enters: bounds are proved against the numeral -/
theorem lt_U32 {n : Nat} (h : n < 4294967296) : n < U32 := h

theorem addU32_ok {a b : Nat} (h : a + b < U32) : addU32 a b = .ok (a + b) := by
  simp [addU32, h]

/-- sums only grow, so checking for overflow at every step is checking at the end (`T`: what `f`
adds; `g`: what it returns) -/
theorem addU32_bind {α : Type} {s x T : Nat} {f : Nat → R α} {g : Nat → α}
    (ih : ∀ s', s' < U32 → f s' = if s' + T < U32 then .ok (g (s' + T)) else .panic) :
    (addU32 s x >>= f) = if s + (x + T) < U32 then .ok (g (s + (x + T))) else .panic := by
  unfold addU32
  by_cases h : s + x < U32
  · rw [if_pos h, R.bind_ok, ih _ h, Nat.add_assoc]
  · rw [if_neg h, R.bind_panic, if_neg (by omega)]

theorem sumLoop_past (iw : Nat) : ∀ (d : List UInt8) (i s : Nat), iw < i → s < U32 →
    sumLoop iw d i s =
      if s + evenSum d < U32 then .ok (i + d.length / 2, s + evenSum d) else .panic := by
  intro d
  induction d using wordSum.induct with
  | case1 =>
    intro i s _ hs
    simp [sumLoop, evenSum_nil, hs]
  | case2 a =>
    intro i s _ hs
    simp [sumLoop, evenSum_single, hs]
  | case3 a b r ih =>
    intro i s hi _
    have hne : (i != iw) = true := bne_iff_ne.mpr (by omega)
    have hl : i + (a :: b :: r).length / 2 = i + 1 + r.length / 2 := by
      simp only [List.length_cons]; omega
    rw [sumLoop, if_pos hne, hl]
    exact addU32_bind (g := fun t => (i + 1 + r.length / 2, t)) (ih (i + 1) · (by omega))

/-- the ignored word lies `k` words ahead of `i` -/
theorem sumLoop_eq : ∀ (d : List UInt8) (k i s : Nat), s < U32 →
    sumLoop (i + k) d i s =
      if s + evenSum (zeroField k d) < U32
      then .ok (i + d.length / 2, s + evenSum (zeroField k d)) else .panic := by
  intro d
  induction d using wordSum.induct with
  | case1 =>
    intro k i s hs
    simp [sumLoop, zeroField_nil, evenSum_nil, hs]
  | case2 a =>
    intro k i s hs
    rw [zeroField_single]
    cases k
    · simp [sumLoop, evenSum_single, hs]
    · simp [sumLoop, evenSum_single, hs]
  | case3 a b r ih =>
    intro k i s hs
    have hl : i + (a :: b :: r).length / 2 = i + 1 + r.length / 2 := by
      simp only [List.length_cons]; omega
    cases k with
    | zero =>
      have hne : ¬ ((i != i + 0) = true) := by simp
      rw [sumLoop, if_neg hne, sumLoop_past _ r _ s (by omega) hs, zeroField_cons2_zero, hl]
      simp [evenSum_cons2, be16n]
    | succ k =>
      have hne : (i != i + (k + 1)) = true := by simp
      rw [sumLoop, if_pos hne, zeroField_cons2_succ, hl, show i + (k + 1) = i + 1 + k by omega]
      exact addU32_bind (g := fun t => (i + 1 + r.length / 2, t)) (ih k (i + 1))

theorem sumBeWords_exact (d : List UInt8) (iw : Nat) :
    sumBeWords d iw =
      if wordSum (zeroField iw d) < U32 then .ok (wordSum (zeroField iw d)) else .panic := by
  unfold sumBeWords
  by_cases he : d = []
  · subst he
    rw [zeroField_nil, if_pos (lt_U32 (by decide))]
    rfl
  · have hloop := sumLoop_eq d iw 0 0 (lt_U32 (by decide))
    simp only [Nat.zero_add] at hloop
    rw [if_neg (by simpa using he), hloop, wordSum_eq_even_add_last, lastOdd_zeroField]
    by_cases hE : evenSum (zeroField iw d) < U32
    · rw [if_pos hE, R.bind_ok]
      -- the loop leaves `i = d.length / 2`, so the guard `i != ignore_word` of the statement after
      -- it is the condition of `lastOdd_zeroField`; what that statement adds is `lastOdd d`
      by_cases hi : d.length / 2 = iw
      · simp [hi, hE]
      · rcases lastOdd_cases d with ⟨h, e⟩ | ⟨h, x, hx, e⟩
        · simp [hi, Nat.and_one_is_mod, h, e, hE]
        · simp [hi, Nat.and_one_is_mod, h, hx, e, Nat.shiftLeft_eq, addU32]
    · rw [if_neg hE, if_neg (by omega)]
      rfl

/-- at most 32768 words of at most 65535 each -/
theorem wordSum_bound {d : List UInt8} (iw : Nat) (h : d.length ≤ 65535) :
    wordSum (zeroField iw d) ≤ 65535 * 32768 := by
  have := wordSum_le (zeroField iw d)
  rw [zeroField_length] at this
  omega

theorem sumBeWords_ok (d : List UInt8) (iw : Nat) (h : d.length ≤ 65535) :
    sumBeWords d iw = .ok (wordSum (zeroField iw d)) := by
  have := wordSum_bound iw h
  rw [sumBeWords_exact, if_pos (lt_U32 (by omega))]

theorem shl8_or (a b : UInt8) : (a.toNat <<< 8) ||| b.toNat = a.toNat * 256 + b.toNat := by
  rw [← Nat.shiftLeft_add_eq_or_of_lt b.toNat_lt, Nat.shiftLeft_eq]

theorem ipv4WordSum_eq {ip : List UInt8} (h : ip.length = 4) :
    ipv4WordSum ip = .ok (wordSum ip) := by
  match ip, h with
  | [a, b, c, d], _ =>
    have := a.toNat_lt
    have := b.toNat_lt
    have := c.toNat_lt
    have := d.toNat_lt
    simp only [ipv4WordSum]
    rw [shl8_or, shl8_or, addU32_ok (lt_U32 (by omega))]
    simp [wordSum]

theorem sumU32_segments : ∀ (ip : List UInt8) (acc : Nat), acc < U32 →
    sumU32 acc (segments ip) =
      if acc + evenSum ip < U32 then .ok (acc + evenSum ip) else .panic := by
  intro ip
  induction ip using wordSum.induct with
  | case1 =>
    intro acc h
    simp [segments, sumU32, evenSum_nil, h]
  | case2 a =>
    intro acc h
    simp [segments, sumU32, evenSum_single, h]
  | case3 a b r ih =>
    intro acc _
    exact addU32_bind (g := id) ih

theorem ipv6WordSum_eq {ip : List UInt8} (h : ip.length = 16) :
    ipv6WordSum ip = .ok (wordSum ip) := by
  have := wordSum_le ip
  rw [h] at this
  rw [ipv6WordSum, if_pos h, sumU32_segments ip 0 (lt_U32 (by decide)),
    ← wordSum_eq_evenSum (by omega), if_pos (lt_U32 (by omega)), Nat.zero_add]

theorem wordSum_pseudo4 {src dst : List UInt8} (p : UInt8) {len : Nat} (rest : List UInt8)
    (hs : src.length = 4) (hd : dst.length = 4) (hl : len ≤ 65535) :
    wordSum (pseudo4 src dst p len ++ rest) =
      wordSum src + wordSum dst + p.toNat + len + wordSum rest := by
  simp [pseudo4, wordSum_append_even, hs, hd, wordSum]
  omega

theorem wordSum_pseudo6 {src dst : List UInt8} (p : UInt8) {len : Nat} (rest : List UInt8)
    (hs : src.length = 16) (hd : dst.length = 16) (hl : len ≤ 65535) :
    wordSum (pseudo6 src dst p len ++ rest) =
      wordSum src + wordSum dst + p.toNat + len + wordSum rest := by
  -- the two upper octets of the 32-bit length are 0
  have h1 : len / 16777216 = 0 := Nat.div_eq_of_lt (Nat.lt_of_le_of_lt hl (by decide))
  have h2 : len / 65536 = 0 := Nat.div_eq_of_lt (Nat.lt_of_le_of_lt hl (by decide))
  simp [pseudo6, wordSum_append_even, hs, hd, wordSum, h1, h2]
  omega

theorem checksum_eq {d : List UInt8} (iw : Nat) (hne : d ≠ []) (h : d.length ≤ 65535) :
    checksum d iw = .ok (ocsum (zeroField iw d)) := by
  unfold checksum
  have : d.isEmpty = false := by simpa using hne
  rw [this, sumBeWords_ok d iw h]
  simp [finalize_eq, ocsum]

/-- the common body of `ipv4_checksum` / `ipv6_checksum` once the two address sums are known -/
theorem pseudoSum_eq {a b p l w : Nat} (h : a + b + p + l + w < U32) :
    (do let sum ← addU32 0 a
        let sum ← addU32 sum b
        let sum ← addU32 sum p
        let sum ← addU32 sum l
        let sum ← addU32 sum w
        R.ok (finalize sum)) = .ok (0xFFFF - fold16 (a + b + p + l + w)) := by
  rw [addU32_ok (by omega), R.bind_ok, addU32_ok (by omega), R.bind_ok, addU32_ok (by omega),
    R.bind_ok, addU32_ok (by omega), R.bind_ok, addU32_ok (by omega), R.bind_ok, finalize_eq,
    Nat.zero_add]

theorem pseudoSum_bound {d src dst : List UInt8} (iw : Nat) (p : UInt8)
    (hs : src.length ≤ 16) (hd : dst.length ≤ 16) (h : d.length ≤ 65535) :
    wordSum src + wordSum dst + p.toNat + d.length + wordSum (zeroField iw d) < U32 := by
  have b1 := wordSum_le src
  have b2 := wordSum_le dst
  have b3 := p.toNat_lt
  have b4 := wordSum_bound iw h
  exact lt_U32 (by omega)

theorem lenAsU32_eq {d : List UInt8} (h : d.length ≤ 65535) : lenAsU32 d = d.length :=
  Nat.mod_eq_of_lt (lt_U32 (by omega))

theorem ipv4Checksum_eq {d src dst : List UInt8} (iw : Nat) (p : UInt8)
    (hs : src.length = 4) (hd : dst.length = 4) (h : d.length ≤ 65535) :
    ipv4Checksum d iw src dst p =
      .ok (ocsum (pseudo4 src dst p d.length ++ zeroField iw d)) := by
  unfold ipv4Checksum
  rw [ipv4WordSum_eq hs, ipv4WordSum_eq hd, sumBeWords_ok d iw h, lenAsU32_eq h]
  simp only [R.bind_ok]
  rw [pseudoSum_eq (pseudoSum_bound iw p (by omega) (by omega) h), ocsum,
    wordSum_pseudo4 p _ hs hd h]

theorem ipv6Checksum_eq {d src dst : List UInt8} (iw : Nat) (p : UInt8)
    (hs : src.length = 16) (hd : dst.length = 16) (h : d.length ≤ 65535) :
    ipv6Checksum d iw src dst p =
      .ok (ocsum (pseudo6 src dst p d.length ++ zeroField iw d)) := by
  unfold ipv6Checksum
  rw [ipv6WordSum_eq hs, ipv6WordSum_eq hd, sumBeWords_ok d iw h, lenAsU32_eq h]
  simp only [R.bind_ok]
  rw [pseudoSum_eq (pseudoSum_bound iw p (by omega) (by omega) h), ocsum,
    wordSum_pseudo6 p _ hs hd h]

theorem wordSum_putField (c : Nat) (hc : c < 65536) : ∀ (d : List UInt8) (iw : Nat),
    2 * iw + 1 < d.length → wordSum (putField iw c d) = wordSum (zeroField iw d) + c := by
  intro d
  induction d using wordSum.induct with
  | case1 => intro iw h; simp at h
  | case2 a =>
    intro iw h
    simp only [List.length_cons, List.length_nil] at h
    omega
  | case3 a b r ih =>
    intro iw h
    cases iw with
    | zero =>
      rw [putField_cons2_zero, zeroField_cons2_zero]
      simp only [wordSum, UInt8.toNat_ofNat', UInt8.toNat_zero]
      omega
    | succ k =>
      rw [putField_cons2_succ, zeroField_cons2_succ]
      simp only [List.length_cons] at h
      simp only [wordSum, ih k (by omega)]
      omega

/-- `pre`: the pseudo header, or nothing -/
theorem verifies_putField (pre d : List UInt8) (iw : Nat) (hpre : pre.length % 2 = 0)
    (hf : 2 * iw + 1 < d.length) :
    verifies (pre ++ putField iw (ocsum (pre ++ zeroField iw d)) d) := by
  unfold verifies
  have hc : ocsum (pre ++ zeroField iw d) < 65536 := by unfold ocsum; omega
  rw [wordSum_append_even _ _ hpre, wordSum_putField _ hc d iw hf, ← Nat.add_assoc,
      ← wordSum_append_even _ _ hpre]
  exact fold16_compl _

theorem verifies_of_eq {r : R Nat} {pre d : List UInt8} {iw : Nat}
    (hr : r = .ok (ocsum (pre ++ zeroField iw d))) (hpre : pre.length % 2 = 0)
    (hf : 2 * iw + 1 < d.length) :
    ∃ c, r = .ok c ∧ c ≤ 0xFFFF ∧ verifies (pre ++ putField iw c d) :=
  ⟨_, hr, by unfold ocsum; omega, verifies_putField pre d iw hpre hf⟩

theorem pseudo4_length_even {src dst : List UInt8} (p : UInt8) (len : Nat)
    (hs : src.length = 4) (hd : dst.length = 4) : (pseudo4 src dst p len).length % 2 = 0 := by
  simp [pseudo4, hs, hd]

theorem pseudo6_length_even {src dst : List UInt8} (p : UInt8) (len : Nat)
    (hs : src.length = 16) (hd : dst.length = 16) : (pseudo6 src dst p len).length % 2 = 0 := by
  simp [pseudo6, hs, hd]

end TV.Cksum
