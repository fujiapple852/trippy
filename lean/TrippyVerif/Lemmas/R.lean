import TrippyVerif.Model.Basic
/-!
Inversion of `>>=` in the result monad `R`: with these a proof walks down a `do` block one `obtain` (or `refine`)
per line.
-/
namespace TV.R

theorem bind_eq_ok {α β : Type} {x : R α} {f : α → R β} {b : β} :
    (x >>= f) = .ok b ↔ ∃ a, x = .ok a ∧ f a = .ok b := by
  cases x <;> simp

theorem bind_ne_panic {α β : Type} {x : R α} {f : α → R β} (hx : x ≠ .panic)
    (hf : ∀ a, x = .ok a → f a ≠ .panic) : (x >>= f) ≠ .panic := by
  cases x with
  | ok a => simpa using hf a rfl
  | err e => simp
  | panic => exact absurd rfl hx

/-- the form of `tcpLoop_spec` / `doSends_spec` / `sendRequest_spec`, for a step known to return `(a, b)` -/
theorem ok_spec {α β : Type} {P : α → β → Prop} {a : α} {b : β} (h : P a b) :
    (R.ok (a, b) : R (α × β)) ≠ .panic ∧ ∀ a' b', R.ok (a, b) = .ok (a', b') → P a' b' := by
  refine ⟨by simp, fun a' b' e => ?_⟩
  simp at e
  obtain ⟨rfl, rfl⟩ := e
  exact h

end TV.R
