import Mathlib.Tactic.Ring
import Mathlib.Tactic.FieldSimp
import Mathlib.Tactic.Linarith
import TrippyVerif.Lemmas.AggStats
/-!
The aggregator's `f64` arithmetic over the exact rationals (C05, real-arithmetic half): `instNumRat` interprets
`TV.Agg.Num` in ℚ, so that `Hop ℚ` is the aggregator with exact arithmetic.  IEEE ROUNDING IS NOT MODELLED: these
theorems say that the *formulas* the code uses compute what they should, they do not bound the floating point error
(the harness compares the real `f64` results with the bit-exact `Float` run of the same model, and with two-pass `f64`
formulas at relative tolerance 1e-9).  `toDur` is the floor where `Duration::from_secs_f64` rounds to nearest; it is
applied to whole numbers of nanoseconds only (`toDur_ms`), where the two agree.
-/
namespace TV.Agg
open TV.Reagg

instance instNumRat : Num Rat where
  add := (· + ·)
  sub := (· - ·)
  mul := (· * ·)
  div := (· / ·)
  ofNat n := (n : Rat)
  abs x := |x|
  maxHalf x := max x (1 / 2)
  durMs ns := (ns : Rat) / 1000000
  toDur x := (x * 1000000).floor.toNat

theorem jitterMs_eq (a b : Nat) :
    (Num.abs ((Num.durMs a : Rat) - Num.durMs b) : Rat) = ((absDiff a b : Nat) : Rat) / 1000000 := by
  show |(a : Rat) / 1000000 - (b : Rat) / 1000000| = _
  unfold absDiff
  rcases Nat.le_total a b with h | h
  · have hq : (a : Rat) ≤ b := by exact_mod_cast h
    rw [abs_of_nonpos (by linarith), Nat.sub_eq_zero_of_le h, Nat.zero_add, Nat.cast_sub h]
    ring
  · have hq : (b : Rat) ≤ a := by exact_mod_cast h
    rw [abs_of_nonneg (by linarith), Nat.sub_eq_zero_of_le h, Nat.add_zero, Nat.cast_sub h]
    ring

theorem durMs_zero : (Num.durMs 0 : Rat) = Num.ofNat 0 := by
  show ((0 : Nat) : Rat) / 1000000 = ((0 : Nat) : Rat)
  simp

theorem toDur_ms (n : Nat) : Num.toDur ((n : Rat) / 1000000) = n := by
  show ((n : Rat) / 1000000 * 1000000).floor.toNat = n
  have : (n : Rat) / 1000000 * 1000000 = (n : Rat) := by field_simp
  rw [this]
  simp [Rat.floor]

instance : ExactDur Rat where
  toDur_diff a b := by
    rw [jitterMs_eq]
    exact toDur_ms _
  toDur_first a := by
    rw [← durMs_zero, jitterMs_eq, absDiff_zero]
    exact toDur_ms a

/-- `mean += (x - mean) / n` after incrementing `n`; state = (n, mean) -/
def meanStep (s : Nat × Rat) (x : Rat) : Nat × Rat := (s.1 + 1, s.2 + (x - s.2) / ((s.1 + 1 : Nat) : Rat))

/-- Welford's update as coded: `delta = x - mean; mean += delta / n; m2 += delta * (x - mean)`;
state = (n, mean, m2) -/
def welfordStep (s : Nat × Rat × Rat) (x : Rat) : Nat × Rat × Rat :=
  let mean' := s.2.1 + (x - s.2.1) / ((s.1 + 1 : Nat) : Rat)
  (s.1 + 1, mean', s.2.2 + (x - s.2.1) * (x - mean'))

theorem sum_sq_shift (xs : List Rat) (a b : Rat) :
    (xs.map fun x => (x - b) * (x - b)).sum =
      (xs.map fun x => (x - a) * (x - a)).sum + (xs.length : Rat) * ((a - b) * (a - b))
        + 2 * (a - b) * (xs.sum - (xs.length : Rat) * a) := by
  induction xs with
  | nil => simp
  | cons x xs ih =>
    simp only [List.map_cons, List.sum_cons, List.length_cons, ih]
    push_cast
    ring

theorem welford_two_pass (xs : List Rat) :
    (xs.foldl welfordStep (0, 0, 0)).1 = xs.length ∧
    ((xs.length : Nat) : Rat) * (xs.foldl welfordStep (0, 0, 0)).2.1 = xs.sum ∧
    (xs.foldl welfordStep (0, 0, 0)).2.2 =
      (xs.map fun x => (x - (xs.foldl welfordStep (0, 0, 0)).2.1) * (x - (xs.foldl welfordStep (0, 0, 0)).2.1)).sum := by
  induction xs using snoc_induction with
  | nil => simp
  | snoc xs x ih =>
    obtain ⟨h1, h2, h3⟩ := ih
    rw [List.foldl_append, List.foldl_cons, List.foldl_nil]
    generalize xs.foldl welfordStep (0, 0, 0) = s at h1 h2 h3
    obtain ⟨n, m, q⟩ := s
    simp only at h1 h2 h3
    subst h1
    have hne : ((xs.length + 1 : Nat) : Rat) ≠ 0 := by positivity
    refine ⟨by simp [welfordStep], ?_, ?_⟩
    · -- with `n = xs.length` and the new mean `m' = m + (x - m) / (n + 1)`: `(n + 1) * m' = n * m + x`
      simp only [welfordStep, List.length_append, List.length_cons, List.length_nil, List.sum_append,
        List.sum_cons, List.sum_nil, ← h2]
      push_cast at hne ⊢
      field_simp
      ring
    · -- the old deviations are shifted from `m` to `m'` (`sum_sq_shift`; the cross term vanishes because
      -- `Σ (xᵢ - m) = 0`), which leaves `(x - m) * (x - m') = n * (m - m')² + (x - m')²`
      simp only [welfordStep, List.map_append, List.map_cons, List.map_nil, List.sum_append,
        List.sum_cons, List.sum_nil]
      rw [sum_sq_shift xs m, ← h3, ← h2]
      push_cast at hne ⊢
      field_simp
      ring

theorem welford_mean (xs : List Rat) :
    ((xs.foldl welfordStep (0, 0, 0)).1, (xs.foldl welfordStep (0, 0, 0)).2.1) = xs.foldl meanStep (0, 0) := by
  induction xs using snoc_induction with
  | nil => rfl
  | snoc xs x ih =>
    rw [List.foldl_append, List.foldl_append, ← ih]
    rfl

theorem meanStep_fold (xs : List Rat) :
    ((xs.length : Nat) : Rat) * (xs.foldl meanStep (0, 0)).2 = xs.sum := by
  rw [← welford_mean]
  exact (welford_two_pass xs).2.1

def msOf (ds : List Nat) : List Rat := ds.map fun (d : Nat) => (d : Rat) / 1000000

theorem msOf_snoc (ds : List Nat) (d : Nat) : msOf (ds ++ [d]) = msOf ds ++ [(d : Rat) / 1000000] := by
  simp [msOf]

/-- C05 (real arithmetic): over ℚ, after any outcomes `os` of a hop,
`mean`  is the running-mean recurrence over the rtts in ms (= their arithmetic mean, `meanStep_fold`),
`m2`    is Welford's recurrence over the same series (= the sum of squared deviations from the
        mean, `welford_two_pass`),
`javg`  is the running-mean recurrence over the jitter series (= its arithmetic mean). -/
theorem num_fold (ms : Nat) (os : List Outcome) :
    let h := os.foldl (hopStep (F := Rat) ms) Hop.default
    (h.totalRecv, h.mean, h.m2) = (msOf (rtts os)).foldl welfordStep (0, 0, 0) ∧
    (h.totalRecv, h.javg) = (msOf (jitters (rtts os))).foldl meanStep (0, 0) := by
  induction os using snoc_induction with
  | nil => exact ⟨rfl, rfl⟩
  | snoc os o ih =>
    have hs := stats_fold (F := Rat) ms os
    -- `simp only` with no lemmas unfolds the statement's `let h`, in the goal and in `ih`
    simp only
    rw [List.foldl_append, List.foldl_cons, List.foldl_nil]
    simp only at ih
    generalize os.foldl (hopStep (F := Rat) ms) Hop.default = h at ih hs
    have hlast : h.last = (rtts os).getLast? := congrArg Stats.last hs
    obtain ⟨i1, i2⟩ := ih
    cases o with
    | failed p => simpa [hopStep, Hop.failed, rtts_snoc, Outcome.rtt] using ⟨i1, i2⟩
    | awaited p l => simpa [hopStep, Hop.awaited, rtts_snoc, Outcome.rtt] using ⟨i1, i2⟩
    | complete c n =>
      simp only [jitters] at i2
      simp only [hopStep_complete, rtts_snoc, Outcome.rtt, Option.toList, msOf_snoc, List.foldl_append,
        List.foldl_cons, List.foldl_nil, ← i1, ← i2, jitters, jittersFrom_snoc]
      constructor
      · rfl
      · have hj : (Num.abs ((Num.durMs (c.received - c.probe.sent) : Rat) -
              (match h.last with | some l => Num.durMs l | none => Num.ofNat 0)) : Rat) =
            ((absDiff (c.received - c.probe.sent) ((rtts os).getLast?.getD 0) : Nat) : Rat) / 1000000 := by
          rw [hlast]
          cases hl : (rtts os).getLast? with
          | none =>
            simp only [Option.getD_none, ← durMs_zero]
            exact jitterMs_eq _ 0
          | some l => exact jitterMs_eq _ l
        exact congrArg (fun z : Rat => (h.totalRecv + 1, h.javg + (z - h.javg) / ((h.totalRecv + 1 : Nat) : Rat))) hj

theorem m2_is_squared_deviation_sum (ms : Nat) (os : List Outcome) :
    let h := os.foldl (hopStep (F := Rat) ms) Hop.default
    ((rtts os).length : Rat) * h.mean = (msOf (rtts os)).sum ∧
    h.m2 = ((msOf (rtts os)).map fun x => (x - h.mean) * (x - h.mean)).sum := by
  obtain ⟨_, w2, w3⟩ := welford_two_pass (msOf (rtts os))
  rw [← (num_fold ms os).1] at w2 w3
  exact ⟨by simpa [msOf] using w2, w3⟩

theorem length_ne_zero_rat {α} {l : List α} (h : l ≠ []) : (l.length : Rat) ≠ 0 := by
  exact_mod_cast fun h' => h (List.length_eq_zero_iff.1 h')

theorem mean_is_arithmetic_mean (ms : Nat) (os : List Outcome) (h : rtts os ≠ []) :
    (os.foldl (hopStep (F := Rat) ms) Hop.default).mean = (msOf (rtts os)).sum / (rtts os).length := by
  rw [← (m2_is_squared_deviation_sum ms os).1, mul_div_cancel_left₀ _ (length_ne_zero_rat h)]

theorem javg_is_mean_jitter (ms : Nat) (os : List Outcome) (h : rtts os ≠ []) :
    (os.foldl (hopStep (F := Rat) ms) Hop.default).javg =
      (msOf (jitters (rtts os))).sum / (rtts os).length := by
  have h2 := meanStep_fold (msOf (jitters (rtts os)))
  have hlen : (msOf (jitters (rtts os))).length = (rtts os).length := by
    simp [msOf, jitters, jittersFrom_length]
  rw [hlen, ← (num_fold ms os).2] at h2
  rw [← h2, mul_div_cancel_left₀ _ (length_ne_zero_rat h)]

/-- `loss_pct`, `forward_loss_pct`, `backward_loss_pct` lie in `[0, 100]` -/
theorem pct_range (lost sent : Nat) (hls : lost ≤ sent) :
    (0 : Rat) ≤ pct lost sent ∧ (pct lost sent : Rat) ≤ 100 := by
  unfold pct
  split
  · next hpos =>
    show (0 : Rat) ≤ ((lost : Nat) : Rat) / ((sent : Nat) : Rat) * ((100 : Nat) : Rat) ∧
      ((lost : Nat) : Rat) / ((sent : Nat) : Rat) * ((100 : Nat) : Rat) ≤ 100
    have h2 : (0 : Rat) < sent := by exact_mod_cast hpos
    have h1 : (lost : Rat) ≤ sent := by exact_mod_cast hls
    have h0 := div_nonneg (Nat.cast_nonneg (α := Rat) lost) (Nat.cast_nonneg (α := Rat) sent)
    have h3 : (lost : Rat) / sent ≤ 1 := by rw [div_le_iff₀ h2]; linarith
    push_cast
    constructor <;> linarith
  · show (0 : Rat) ≤ ((0 : Nat) : Rat) ∧ ((0 : Nat) : Rat) ≤ 100
    simp

theorem avgMs_range (h : Hop Rat) (b w : Nat) (hr : h.totalRecv ≠ 0) (hb : b * h.totalRecv ≤ h.totalTime)
    (hw : h.totalTime ≤ w * h.totalRecv) :
    (Num.durMs b : Rat) ≤ h.avgMs ∧ h.avgMs ≤ (Num.durMs w : Rat) := by
  unfold Hop.avgMs
  have hpos : h.totalRecv > 0 := by omega
  simp only [hpos, if_true]
  have hq : (0 : Rat) < (h.totalRecv : Rat) := by exact_mod_cast hpos
  have hbq : (b : Rat) * h.totalRecv ≤ h.totalTime := by exact_mod_cast hb
  have hwq : (h.totalTime : Rat) ≤ w * h.totalRecv := by exact_mod_cast hw
  constructor
  · show (b : Rat) / 1000000 ≤ (h.totalTime : Rat) / 1000000 / (h.totalRecv : Rat)
    rw [le_div_iff₀ hq]; linarith
  · show (h.totalTime : Rat) / 1000000 / (h.totalRecv : Rat) ≤ (w : Rat) / 1000000
    rw [div_le_iff₀ hq]; linarith

end TV.Agg
