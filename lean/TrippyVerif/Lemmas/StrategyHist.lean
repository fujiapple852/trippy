import TrippyVerif.Lemmas.Strategy
/-!
The ghost history of the round in progress (`Ghost`, `GInv`): what each buffer slot holds, in terms of the log of
`send_probe` calls and of the accepted responses of the round (C01); and the TTL discipline of that log (`ttlsFrom`: C06).
-/
namespace TV.Strat

structure Ghost where
  sent : List (Probe × SendOutcome) := []
  accepted : List (Probe × SResp) := []

/-- what the network did to the probe of one `send_probe` call: the slot it must be reported as -/
def expectedSlot (acc : List (Probe × SResp)) (x : Probe × SendOutcome) : Slot :=
  match x.2 with
  | .ok =>
    match acc.find? (fun a => a.1.seq = x.1.seq) with
    | some a => .complete (mkComplete a.1 a.2)
    | none => .awaited x.1
  | _ => slotOf x

/-- the ghost history fits the state: each allocated slot holds what `expectedSlot` dictates for its log entry.
(No field mentions `c`.) -/
structure GInv (c : Cfg) (s : TS) (g : Ghost) : Prop where
  len : g.sent.length = s.count
  slots : ∀ k (h : k < g.sent.length), s.buffer[k]? = some (expectedSlot g.accepted g.sent[k])
  seqs : ∀ k (h : k < g.sent.length), g.sent[k].1.seq = s.roundSeq + k
  nofatal : ∀ x ∈ g.sent, x.2 ≠ .fatal
  acc : ∀ a ∈ g.accepted, (a.1, SendOutcome.ok) ∈ g.sent

theorem expectedSlot_not_ok (acc : List (Probe × SResp)) (x : Probe × SendOutcome) (h : x.2 ≠ .ok) :
    expectedSlot acc x = slotOf x := by
  obtain ⟨p, o⟩ := x
  cases o with
  | ok => exact absurd rfl h
  | probeFailed => rfl
  | addrInUse => rfl
  | fatal => rfl

theorem expectedSlot_fresh (acc : List (Probe × SResp)) (x : Probe × SendOutcome) (h : x.2 ≠ .fatal)
    (hf : acc.find? (fun a => a.1.seq = x.1.seq) = none) : expectedSlot acc x = slotOf x := by
  obtain ⟨p, o⟩ := x
  cases o with
  | ok => simp only [expectedSlot, hf, slotOf]
  | probeFailed => rfl
  | addrInUse => rfl
  | fatal => exact absurd rfl h

theorem expectedSlot_nil (x : Probe × SendOutcome) (h : x.2 ≠ .fatal) : expectedSlot [] x = slotOf x :=
  expectedSlot_fresh [] x h rfl

theorem expectedSlot_awaited {acc : List (Probe × SResp)} {x : Probe × SendOutcome} {p : Probe}
    (hx : x.2 ≠ .fatal) (h : expectedSlot acc x = .awaited p) :
    x = (p, .ok) ∧ acc.find? (fun a => a.1.seq = p.seq) = none := by
  obtain ⟨q, o⟩ := x
  cases o with
  | ok =>
    simp only [expectedSlot] at h
    cases hf : acc.find? (fun a => a.1.seq = q.seq) with
    | none =>
      simp [hf] at h
      subst h
      exact ⟨rfl, hf⟩
    | some a => simp [hf] at h
  | probeFailed => simp [expectedSlot, slotOf] at h
  | addrInUse => simp [expectedSlot, slotOf] at h
  | fatal => exact absurd rfl hx

theorem expectedSlot_complete {acc : List (Probe × SResp)} {x : Probe × SendOutcome} {cp : Complete}
    (h : expectedSlot acc x = .complete cp) :
    x.2 = .ok ∧ ∃ a ∈ acc, a.1.seq = x.1.seq ∧ cp = mkComplete a.1 a.2 := by
  obtain ⟨p, o⟩ := x
  cases o with
  | ok =>
    simp only [expectedSlot] at h
    cases hf : acc.find? (fun a => a.1.seq = p.seq) with
    | none => simp [hf] at h
    | some a =>
      simp only [hf, Slot.complete.injEq] at h
      exact ⟨rfl, a, List.mem_of_find?_eq_some hf, by simpa using List.find?_some hf, h.symm⟩
  | probeFailed => simp [expectedSlot, slotOf] at h
  | addrInUse => simp [expectedSlot, slotOf] at h
  | fatal => simp [expectedSlot, slotOf] at h

theorem expectedSlot_accept_self {acc : List (Probe × SResp)} {p : Probe} (r : SResp)
    (h : acc.find? (fun a => a.1.seq = p.seq) = none) :
    expectedSlot (acc ++ [(p, r)]) (p, .ok) = .complete (mkComplete p r) := by
  simp [expectedSlot, List.find?_append, h]

theorem expectedSlot_accept_ne (acc : List (Probe × SResp)) {p : Probe} (r : SResp) {x : Probe × SendOutcome}
    (h : p.seq ≠ x.1.seq) : expectedSlot (acc ++ [(p, r)]) x = expectedSlot acc x := by
  obtain ⟨q, o⟩ := x
  cases o with
  | ok =>
    simp only [expectedSlot, List.find?_append]
    cases acc.find? (fun a => a.1.seq = q.seq) with
    | some a => rfl
    | none => simp [h]
  | probeFailed => rfl
  | addrInUse => rfl
  | fatal => rfl

theorem GInv.sent_inj {c : Cfg} {s : TS} {g : Ghost} (hg : GInv c s g) {x y : Probe × SendOutcome}
    (hx : x ∈ g.sent) (hy : y ∈ g.sent) (h : x.1.seq = y.1.seq) : x = y := by
  obtain ⟨j, hj, rfl⟩ := List.getElem_of_mem hx
  obtain ⟨k, hk, rfl⟩ := List.getElem_of_mem hy
  have h1 := hg.seqs j hj
  have h2 := hg.seqs k hk
  obtain rfl : j = k := by omega
  rfl

theorem GInv.accepted_lt {c : Cfg} {s : TS} {g : Ghost} (h : Inv c s) (hg : GInv c s g) :
    ∀ a ∈ g.accepted, a.1.seq < s.sequence := by
  intro a ha
  obtain ⟨j, hj, hje⟩ := List.getElem_of_mem (hg.acc a ha)
  have hsj := hg.seqs j hj
  rw [hje] at hsj
  have := hg.len
  have := h.seq_eq
  simp only at hsj
  omega

theorem ginv_send {c : Cfg} {s s' : TS} {g : Ghost} (h : Inv c s) (hg : GInv c s g)
    {lg : List (Probe × SendOutcome)} (hso : Sent c s s' lg) : GInv c s' { g with sent := g.sent ++ lg } := by
  have hnf := hso.no_fatal
  have hrs : s'.roundSeq = s.roundSeq := hso.roundSeq
  have hseq := h.seq_eq
  have hlen := hg.len
  have hcnt : s'.count = s.count + lg.length := TS.count_add h.seq_ge hrs hso.seq
  have hseqlg : ∀ k (hk : k < lg.length), lg[k].1.seq = s.sequence + k := by
    intro k hk
    have := congrArg (fun l => l[k]?) hso.seqs
    simpa [hk] using this
  -- a fresh sequence number is not among the accepted ones
  have hfresh : ∀ k (hk : k < lg.length), g.accepted.find? (fun a => a.1.seq = lg[k].1.seq) = none := by
    intro k hk
    rw [List.find?_eq_none]
    intro a ha hx
    have := hg.accepted_lt h a ha
    have := hseqlg k hk
    simp only [decide_eq_true_eq] at hx
    omega
  refine ⟨by simp [hlen, hcnt], ?_, ?_, ?_, ?_⟩
  · refine List.forall_getElem_append (P := fun k x => s'.buffer[k]? = some (expectedSlot g.accepted x))
      (fun k hk => ?_) (fun k hk => ?_)
    · rw [hso.low k (hlen ▸ hk)]
      exact hg.slots k hk
    · rw [hlen, hso.slots k hk, expectedSlot_fresh _ _ (hnf _ (List.getElem_mem hk)) (hfresh _ hk)]
  · refine List.forall_getElem_append (P := fun k (x : Probe × SendOutcome) => x.1.seq = s'.roundSeq + k)
      (fun k hk => ?_) (fun k hk => ?_)
    · rw [hrs]
      exact hg.seqs k hk
    · rw [hseqlg _ hk, hrs]
      omega
  · intro x hx
    rcases List.mem_append.mp hx with hx | hx
    · exact hg.nofatal x hx
    · exact hnf x hx
  · intro a ha
    exact List.mem_append_left _ (hg.acc a ha)

theorem ginv_tick {c : Cfg} {s : TS} {g : Ghost} (hg : GInv c s g) (dt : Nat) : GInv c (tick s dt) g :=
  { hg with }

theorem ginv_accept {c : Cfg} {s : TS} {g : Ghost} (h : Inv c s) (hg : GInv c s g) (r : SResp) (p : Probe)
    (ha : answered s r.seq = some p) :
    GInv c (afterComplete s r p) { g with accepted := g.accepted ++ [(p, r)] } := by
  have ha := answered_spec h ha
  have hge := ha.ge
  have hlt := ha.lt
  have hseq := ha.seq
  have hsl := ha.slot
  have hcnt := h.seq_eq
  have hidx : r.seq - s.roundSeq < g.sent.length := by rw [hg.len]; omega
  obtain ⟨hent, hnone⟩ := expectedSlot_awaited (hg.nofatal _ (List.getElem_mem hidx))
    (Option.some.inj ((hg.slots _ hidx).symm.trans hsl))
  have hmem : (p, SendOutcome.ok) ∈ g.sent := hent ▸ List.getElem_mem hidx
  have hblen : r.seq - s.roundSeq < s.buffer.length := (List.getElem?_eq_some_iff.mp hsl).1
  refine { hg with slots := ?_, acc := ?_ }
  · intro k hk
    simp only [afterComplete_buffer]
    by_cases hki : k = r.seq - s.roundSeq
    · subst hki
      rw [List.getElem?_set_self hblen, hent, expectedSlot_accept_self r hnone]
    · rw [List.getElem?_set_ne (Ne.symm hki), hg.slots k hk, expectedSlot_accept_ne]
      have := hg.seqs k hk
      omega
  · intro a ha'
    rcases List.mem_append.mp ha' with ha' | ha'
    · exact hg.acc a ha'
    · simp at ha'
      subst ha'
      exact hmem

theorem ginv_iter {c : Cfg} {s s1 s' : TS} {g : Ghost} {e : IterEnv} {o : IterOut} (hg : GInv c s g)
    (hk : IterOk c s e s1 s' o) :
    GInv c (afterRecv c s1 e.dt e.recv)
      { sent := g.sent ++ o.sent, accepted := g.accepted ++ acceptedBy c s1 e.recv } := by
  have hg1 := ginv_tick (ginv_send hk.inv hg hk.sent) e.dt
  rcases afterRecv_cases c s1 e.dt e.recv with ⟨ha, he⟩ | ⟨r, p, _, hgen, ha, he⟩
  · rw [ha, he]
    simpa using hg1
  · rw [ha, he]
    exact ginv_accept (inv_tick hk.inv1 e.dt) hg1 _ p (genuine_answered hgen)

theorem ginv_empty (c : Cfg) {s : TS} (h : s.count = 0) : GInv c s {} where
  len := h.symm
  slots := fun k hk => absurd hk (Nat.not_lt_zero k)
  seqs := fun k hk => absurd hk (Nat.not_lt_zero k)
  nofatal := by simp
  acc := by simp

theorem roundOf_probes {c : Cfg} {s : TS} {g : Ghost} (hg : GInv c s g) :
    (roundOf s).probes = g.sent.map (expectedSlot g.accepted) := by
  apply List.ext_getElem?
  intro k
  simp only [roundOf]
  by_cases hk : k < g.sent.length
  · rw [List.getElem?_take_of_lt (by rw [← hg.len]; exact hk), hg.slots k hk]
    simp [hk]
  · have : s.count ≤ k := by rw [← hg.len]; omega
    rw [List.getElem?_take_eq_none this]
    have hk2 : g.sent.length ≤ k := by omega
    simp [hk2]

/-- the TTL discipline of a round's `send_probe` log: starts at `first`, a re-issue (the entry
after an address-in-use outcome) keeps the TTL, every other entry increases it by one.
`ttlsFrom t log` : the log is well-formed when the next fresh TTL is `t`; returns the next fresh TTL. -/
def ttlsFrom : Nat → List (Probe × SendOutcome) → Option Nat
  | t, [] => some t
  | t, (p, o) :: rest =>
    if p.ttl = t then (if o = .addrInUse then ttlsFrom t rest else ttlsFrom (t + 1) rest) else none

theorem ttlsFrom_append (t : Nat) (l1 l2 : List (Probe × SendOutcome)) :
    ttlsFrom t (l1 ++ l2) = (ttlsFrom t l1).bind fun t' => ttlsFrom t' l2 := by
  induction l1 generalizing t with
  | nil => simp [ttlsFrom]
  | cons x xs ih =>
    obtain ⟨p, o⟩ := x
    simp only [List.cons_append, ttlsFrom]
    split
    · split <;> exact ih _
    · simp

theorem ttlsFrom_reissues (t : Nat) (pre : List (Probe × SendOutcome))
    (hall : ∀ x ∈ pre, x.1.ttl = t) (hin : ∀ x ∈ pre, x.2 = .addrInUse) : ttlsFrom t pre = some t := by
  induction pre with
  | nil => rfl
  | cons x xs ih =>
    obtain ⟨p, o⟩ := x
    have hp : p.ttl = t := hall (p, o) (by simp)
    have ho : o = .addrInUse := hin (p, o) (by simp)
    simp only [ttlsFrom, hp, ho, if_true]
    exact ih (fun z hz => hall z (by simp [hz])) (fun z hz => hin z (by simp [hz]))

theorem ttlsFrom_iteration (t : Nat) (lg : List (Probe × SendOutcome)) (hs : LogShape lg)
    (hall : ∀ x ∈ lg, x.1.ttl = t) : ttlsFrom t lg = some (t + 1) := by
  obtain ⟨pre, last, rfl, hin, hl⟩ := hs
  rw [ttlsFrom_append, ttlsFrom_reissues t pre (fun x hx => hall x (by simp [hx])) hin]
  obtain ⟨p, o⟩ := last
  have hp : p.ttl = t := hall (p, o) (by simp)
  simp only [Option.bind_some, ttlsFrom, hp, if_true]
  rcases hl with h | h
  · obtain rfl : o = .ok := h
    simp
  · obtain rfl : o = .probeFailed := h
    simp

theorem trace_step {c : Cfg} {s s1 s' : TS} {e : IterEnv} {o : IterOut} (hk : IterOk c s e s1 s' o)
    (log : List (Probe × SendOutcome)) (hl : ttlsFrom c.firstTtl log = some s.ttl) :
    ttlsFrom c.firstTtl (log ++ o.sent) = some (afterRecv c s1 e.dt e.recv).ttl := by
  rw [ttlsFrom_append, hl, hk.check.ttl]
  by_cases hn : o.sent = []
  · simp [hn, ttlsFrom]
  · simp only [Option.bind_some, hn, if_false]
    exact ttlsFrom_iteration s.ttl o.sent (hk.sent.shape hn) (fun x hx => (hk.sent.each x hx).1)

end TV.Strat
