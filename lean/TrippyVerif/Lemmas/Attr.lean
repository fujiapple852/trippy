import Lean.Meta.Tactic.Simp.RegisterCommand

/-- a translated packet accessor on a buffer that is long enough: `rd` / `wr` / `wrN` at in-range offsets, and
`Spec.getField` unfolded to `wordBV` -/
register_simp_attr pkt_eval

/-- the closed forms of `Spec.getField` / `Spec.setField` for a field that is a whole word of 1, 2 or 4 octets -/
register_simp_attr pkt_word
