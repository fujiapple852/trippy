import TrippyVerif.Lemmas.AggFlow
import TrippyVerif.Lemmas.AggStats
/-!
Histories of rounds (C05, C10, C15): `Reached` names what a history of well-formed rounds leaves in a fresh flow
state and the getters are read off it; `State::update_from_round` and a run of rounds are specified over the flow
registry (`UpdateSpec`, `RunSpec`); from the fresh state every stored flow is `Reached` (`State.run_spec_new`).
-/
namespace TV.Agg
open TV.Strat TV.Reagg

variable {F : Type} [Num F]

theorem foldl_lowStep_pos (ts : List Nat) (hts : ∀ t ∈ ts, 1 ≤ t) : ∀ l, 1 ≤ l →
    ts.foldl lowStep l = ts.foldl min l := by
  induction ts with
  | nil => intro l _; rfl
  | cons t ts ih =>
    intro l hl
    have ht := hts t (by simp)
    have hstep : lowStep l t = min l t := if_neg (by omega)
    rw [List.foldl_cons, List.foldl_cons, hstep]
    exact ih (fun x hx => hts x (by simp [hx])) _ (by omega)

theorem foldl_lowStep_zero (ts : List Nat) (hts : ∀ t ∈ ts, 1 ≤ t) :
    ts.foldl lowStep 0 = ts.min?.getD 0 := by
  cases ts with
  | nil => rfl
  | cons t ts =>
    rw [List.min?_cons', List.foldl_cons, show lowStep 0 t = t from rfl,
      foldl_lowStep_pos ts (fun x hx => hts x (by simp [hx])) t (hts t (by simp))]
    rfl

theorem foldl_max_ge (xs : List Nat) : ∀ a, a ≤ xs.foldl max a ∧ ∀ x ∈ xs, x ≤ xs.foldl max a := by
  induction xs with
  | nil => intro a; simp
  | cons y xs ih =>
    intro a
    obtain ⟨h1, h2⟩ := ih (max a y)
    refine ⟨by simp only [List.foldl_cons]; omega, ?_⟩
    intro x hx
    rcases List.mem_cons.1 hx with rfl | hx
    · simp only [List.foldl_cons]; omega
    · exact h2 x hx

theorem probedTtls_range (hist : List Round) (hwf : ∀ r ∈ hist, RoundWF r) :
    ∀ t ∈ probedTtls hist, 1 ≤ t ∧ t ≤ 254 := by
  intro t ht
  obtain ⟨r, hr, htr⟩ := List.mem_flatMap.1 ht
  exact (hwf r hr).1 t htr

structure Reached (ms : Nat) (hist : List Round) (fs : FlowState F) : Prop where
  len : fs.hops.length = 254
  maxSamples : fs.maxSamples = ms
  roundCount : fs.roundCount = hist.length
  highest : fs.highestTtl = highestTtl hist
  latest : fs.highestTtlForRound = latestTtl hist
  lowest : fs.lowestTtl = lowestTtl hist
  hop : ∀ t, 1 ≤ t → t ≤ 254 →
    fs.hops[t - 1]? = some ((outcomes t hist).foldl (hopStep ms) Hop.default)

theorem Reached.stats {ms : Nat} {hist : List Round} {fs : FlowState F} (h : Reached ms hist fs) :
    ∀ t, 1 ≤ t → t ≤ 254 → ∃ hp, fs.hops[t - 1]? = some hp ∧ statsOf hp = reagg ms (outcomes t hist) :=
  fun t a b => ⟨_, h.hop t a b, stats_fold ms _⟩

theorem highestTtl_snoc (hist : List Round) (r : Round) :
    highestTtl (hist ++ [r]) = max (highestTtl hist) r.largestTtl := by
  unfold highestTtl
  rw [List.map_append, List.map_cons, List.map_nil, max?_snoc]
  cases (hist.map (·.largestTtl)).max? <;> simp

theorem Reached.nil (ms : Nat) : Reached (F := F) ms [] (FlowState.new ms) :=
  ⟨FlowState.new_len ms, rfl, rfl, rfl, rfl, rfl, fun t _ h254 => FlowState.new_hops ms (t - 1) (by omega)⟩

theorem Reached.snoc {ms : Nat} {hist : List Round} {fs : FlowState F} (h : Reached ms hist fs) {r : Round}
    (hwf : ∀ x ∈ hist ++ [r], RoundWF x) : Reached ms (hist ++ [r]) (fs.step r) := by
  have hpos := fun t ht => (probedTtls_range _ hwf t ht).1
  have hprobed : probedTtls (hist ++ [r]) = probedTtls hist ++ ttls r.probes := by simp [probedTtls]
  refine ⟨(fs.step_len r).trans h.len, (fs.step_maxSamples r).trans h.maxSamples,
    by rw [fs.step_roundCount, h.roundCount, List.length_append]; rfl,
    by rw [fs.step_highestTtl, h.highest, highestTtl_snoc],
    by rw [fs.step_highestTtlForRound]; simp [latestTtl], ?_, fun t h1 h254 => ?_⟩
  · -- both sides are the `lowStep` fold over all probed ttls
    rw [fs.step_lowestTtl, h.lowest, lowestTtl, lowestTtl, ← foldl_lowStep_zero _ hpos, hprobed, List.foldl_append,
      foldl_lowStep_zero _ (fun t ht => hpos t (by simp [hprobed, ht]))]
  · rw [fs.step_hop r (fun t ht => hpos t (by simp [hprobed, ht])), h.hop t h1 h254, h.maxSamples,
      show t - 1 + 1 = t by omega]
    simp [outcomes, List.foldl_append]

theorem reached_foldl (ms : Nat) (hist : List Round) (hwf : ∀ r ∈ hist, RoundWF r) :
    Reached (F := F) ms hist (hist.foldl FlowState.step (FlowState.new ms)) := by
  induction hist using snoc_induction with
  | nil => exact Reached.nil ms
  | snoc hist r ih =>
    rw [List.foldl_append]
    exact (ih (fun x hx => hwf x (by simp [hx]))).snoc hwf

theorem run_new (ms : Nat) (hist : List Round) (hwf : ∀ r ∈ hist, RoundWF r) :
    ∃ fs, FlowState.run (FlowState.new (F := F) ms) hist = .ok fs ∧ Reached ms hist fs :=
  ⟨_, run_steps hist hwf _ (FlowState.new_len ms), reached_foldl ms hist hwf⟩

theorem reagg_ttl (ms t : Nat) (os : List Outcome) (h : ∀ o ∈ os, o.probe.ttl = t) (hne : os ≠ []) :
    (reagg ms os).ttl = t := by
  simp only [reagg]
  cases hl : os.getLast? with
  | none => exact absurd (List.getLast?_eq_none_iff.1 hl) hne
  | some o => exact h o (List.mem_of_getLast? hl)

theorem le_highestTtl {hist : List Round} {r : Round} (hr : r ∈ hist) :
    r.largestTtl ≤ highestTtl hist :=
  List.le_max?_getD_of_mem (List.mem_map_of_mem hr)

theorem highestTtl_mem {hist : List Round} (h : highestTtl hist ≠ 0) :
    ∃ r ∈ hist, r.largestTtl = highestTtl hist := by
  unfold highestTtl at h ⊢
  cases hm : (hist.map (·.largestTtl)).max? with
  | none => simp [hm] at h
  | some L =>
    obtain ⟨r, hr, hrl⟩ := List.mem_map.1 (List.max?_mem hm)
    exact ⟨r, hr, hrl⟩

theorem latestTtl_mem {hist : List Round} (h : latestTtl hist ≠ 0) :
    ∃ r ∈ hist, r.largestTtl = latestTtl hist := by
  unfold latestTtl at h ⊢
  cases hl : hist.getLast? with
  | none => simp [hl] at h
  | some r => exact ⟨r, List.mem_of_getLast? hl, rfl⟩

theorem lowestTtl_le {hist : List Round} {t : Nat} (ht : t ∈ probedTtls hist) : lowestTtl hist ≤ t :=
  List.min?_getD_le_of_mem ht

theorem window_of_mem {hist : List Round} (hwf : ∀ r ∈ hist, RoundWF r) {r : Round} (hr : r ∈ hist)
    (hl : r.largestTtl ≠ 0) :
    lowestTtl hist ≠ 0 ∧ lowestTtl hist ≤ r.largestTtl ∧ r.largestTtl ≤ highestTtl hist := by
  obtain ⟨hf, _⟩ := (hwf r hr).2.2.resolve_left hl
  unfold firstTtlLe at hf
  cases hh : (ttls r.probes).head? with
  | none => simp [hh] at hf
  | some f =>
    simp only [hh] at hf
    have hfm : f ∈ probedTtls hist := List.mem_flatMap.2 ⟨r, hr, List.mem_of_head? hh⟩
    refine ⟨?_, Nat.le_trans (lowestTtl_le hfm) hf, le_highestTtl hr⟩
    unfold lowestTtl
    cases hmin : (probedTtls hist).min? with
    | none => simp [List.min?_eq_none_iff.1 hmin] at hfm
    | some m =>
      have := (probedTtls_range hist hwf m (List.min?_mem hmin)).1
      show m ≠ 0
      omega

theorem highestTtl_le {hist : List Round} (hwf : ∀ r ∈ hist, RoundWF r) : highestTtl hist ≤ 254 := by
  by_cases h : highestTtl hist = 0
  · omega
  · obtain ⟨r, hr, hrl⟩ := highestTtl_mem h
    have := (hwf r hr).2.2
    omega

theorem latestTtl_le {hist : List Round} (hwf : ∀ r ∈ hist, RoundWF r) : latestTtl hist ≤ 254 := by
  by_cases h : latestTtl hist = 0
  · omega
  · obtain ⟨r, hr, hrl⟩ := latestTtl_mem h
    have := le_highestTtl hr
    have := highestTtl_le hwf
    omega

theorem lowest_le_highest {hist : List Round} (hwf : ∀ r ∈ hist, RoundWF r) (h2 : highestTtl hist ≠ 0) :
    lowestTtl hist ≠ 0 ∧ lowestTtl hist ≤ highestTtl hist := by
  obtain ⟨r, hr, hrl⟩ := highestTtl_mem h2
  have := window_of_mem hwf hr (hrl ▸ h2)
  exact ⟨this.1, hrl ▸ this.2.1⟩

theorem getElem?_windowTtls {hist : List Round} {k t : Nat} :
    (windowTtls hist)[k]? = some t ↔
      lowestTtl hist ≠ 0 ∧ highestTtl hist ≠ 0 ∧ t = lowestTtl hist + k ∧ t ≤ highestTtl hist := by
  unfold windowTtls
  split
  · simp
    omega
  · rw [List.getElem?_eq_some_iff]
    simp [List.getElem_range']
    omega

omit [Num F] in
theorem hopsR_ok (fs : FlowState F) (h : fs.highestTtl ≠ 0 → fs.lowestTtl - 1 ≤ fs.highestTtl)
    (h' : fs.highestTtl ≤ fs.hops.length) :
    fs.hopsR = .ok (if fs.lowestTtl = 0 ∨ fs.highestTtl = 0 then []
      else (fs.hops.take fs.highestTtl).drop (fs.lowestTtl - 1)) := by
  unfold FlowState.hopsR
  split
  · rfl
  · next hz => simp [h (fun h0 => hz (.inr h0)), h']

omit [Num F] in
theorem targetHopR_eq (fs : FlowState F) : fs.targetHopR = idx fs.hops (fs.highestTtlForRound - 1) := by
  unfold FlowState.targetHopR
  split
  · rfl
  · next h => rw [Nat.eq_zero_of_not_pos h]

/-- C10, `hops()`: the slice is the window `lowest … highest` -/
theorem Reached.hopsR {ms : Nat} {hist : List Round} {fs : FlowState F} (h : Reached ms hist fs)
    (hwf : ∀ r ∈ hist, RoundWF r) :
    ∃ hs, fs.hopsR = .ok hs ∧ hs.length = (windowTtls hist).length ∧
      ∀ (k t : Nat), (windowTtls hist)[k]? = some t →
        hs[k]? = some ((outcomes t hist).foldl (hopStep ms) Hop.default) := by
  have hhi := highestTtl_le hwf
  have hlo : highestTtl hist ≠ 0 → lowestTtl hist ≤ highestTtl hist := fun h0 => (lowest_le_highest hwf h0).2
  have hwin : fs.highestTtl ≠ 0 → fs.lowestTtl - 1 ≤ fs.highestTtl := by
    rw [h.lowest, h.highest]
    intro h0
    have := hlo h0
    omega
  refine ⟨_, hopsR_ok fs hwin (by rw [h.highest, h.len]; exact hhi), ?_, ?_⟩
  · rw [h.lowest, h.highest]
    unfold windowTtls
    split
    · rfl
    · next hz =>
      have := hlo (fun h0 => hz (.inr h0))
      simp [h.len]
      omega
  · intro k t hk
    obtain ⟨h1, h2, rfl, h4⟩ := getElem?_windowTtls.1 hk
    simp only [h.lowest, h.highest, h1, h2, or_self, if_false, List.getElem?_drop, List.getElem?_take]
    rw [if_pos (by omega), ← h.hop _ (by omega) (by omega)]
    congr 1; omega

/-- C10, `target_hop()`: the hop at the latest round's path length (ttl 1 if that is 0) -/
theorem Reached.targetHopR {ms : Nat} {hist : List Round} {fs : FlowState F} (h : Reached ms hist fs)
    (hwf : ∀ r ∈ hist, RoundWF r) :
    fs.targetHopR = .ok ((outcomes (if latestTtl hist = 0 then 1 else latestTtl hist) hist).foldl
      (hopStep ms) Hop.default) := by
  have hlat := latestTtl_le hwf
  have := h.hop (if latestTtl hist = 0 then 1 else latestTtl hist) (by split <;> omega) (by split <;> omega)
  rw [targetHopR_eq, idx, h.latest, show latestTtl hist - 1 = (if latestTtl hist = 0 then 1 else latestTtl hist) - 1 by
    split <;> omega, this]

omit [Num F] in
theorem lookupFlow_setFlow (l : List (Nat × FlowState F)) (id id' : Nat) (v : FlowState F) :
    lookupFlow (setFlow l id v) id' = if id' = id then some v else lookupFlow l id' := by
  fun_induction setFlow l id v with
  | case1 id v => simp [lookupFlow, eq_comm]
  | case2 k w rest v =>
    simp only [lookupFlow, eq_comm]
    split <;> rfl
  | case3 k w rest id v h ih =>
    simp only [lookupFlow, ih]
    split
    · next hk => rw [if_neg (hk ▸ h)]
    · rfl

/-- the state of flow `id`, or a fresh one (`entry(flow_id).or_insert_with(..)`) -/
def flowOr (st : State F) (id : Nat) : FlowState F :=
  (lookupFlow st.flows id).getD (FlowState.new st.cfg.maxSamples)

structure StateInv (st : State F) : Prop where
  reg : RegInv st.registry
  bound : st.registry.flows.length ≤ st.cfg.maxFlows
  flows : ∀ id fs, lookupFlow st.flows id = some fs → fs.hops.length = 254 ∧ fs.maxSamples = st.cfg.maxSamples

theorem flowOr_ok (st : State F) (hinv : StateInv st) (id : Nat) :
    (flowOr st id).hops.length = 254 ∧ (flowOr st id).maxSamples = st.cfg.maxSamples := by
  unfold flowOr
  cases h : lookupFlow st.flows id with
  | none => exact ⟨FlowState.new_len _, rfl⟩
  | some fs => exact hinv.flows id fs h

theorem updateTraceFlow_ok (st : State F) (hinv : StateInv st) (id : Nat) (r : Round) (hwf : RoundWF r) :
    st.updateTraceFlow id r = .ok { st with flows := setFlow st.flows id ((flowOr st id).step r) } := by
  have := applyRound_step (flowOr st id) r (flowOr_ok st hinv id).1 hwf
  unfold State.updateTraceFlow
  unfold flowOr at this
  cases h : lookupFlow st.flows id with
  | none =>
    simp only [h, Option.getD_none] at this
    simp [this, flowOr, h]
  | some fs =>
    simp only [h, Option.getD_some] at this
    simp [this, flowOr, h]

theorem StateInv.setFlow_step {st : State F} (hinv : StateInv st) (id : Nat) (r : Round) :
    StateInv { st with flows := setFlow st.flows id ((flowOr st id).step r) } := by
  refine ⟨hinv.reg, hinv.bound, ?_⟩
  intro id' fs h
  simp only [lookupFlow_setFlow] at h
  split at h
  · simp at h
    subst h
    have ok := flowOr_ok st hinv id
    exact ⟨((flowOr st id).step_len r).trans ok.1, ((flowOr st id).step_maxSamples r).trans ok.2⟩
  · exact hinv.flows id' fs h

theorem lookupFlow_new (cfg : Cfg) (id : Nat) :
    lookupFlow (State.new (F := F) cfg).flows id =
      if id = 0 then some (FlowState.new cfg.maxSamples) else none := by
  simp [State.new, lookupFlow, defaultFlowId, eq_comm]

theorem flowOr_new (cfg : Cfg) (id : Nat) :
    flowOr (State.new (F := F) cfg) id = FlowState.new cfg.maxSamples := by
  rw [flowOr, lookupFlow_new]
  split <;> rfl

theorem StateInv.new (cfg : Cfg) : StateInv (State.new (F := F) cfg) := by
  refine ⟨RegInv_new, by simp [State.new, Registry.new], fun id fs h => ?_⟩
  rw [lookupFlow_new] at h
  split at h
  · cases h
    exact ⟨FlowState.new_len _, rfl⟩
  · cases h

theorem updateFromRound_eq (st : State F) (r : Round) :
    st.updateFromRound r = (st.updateTraceFlow defaultFlowId r).bind fun st1 =>
      match (regStep st1.cfg.maxFlows st1.registry (roundFlow r)).2 with
      | some id =>
        { st1 with registry := (regStep st1.cfg.maxFlows st1.registry (roundFlow r)).1, roundFlowId := id }.updateTraceFlow id r
      | none => .ok { st1 with registry := (regStep st1.cfg.maxFlows st1.registry (roundFlow r)).1 } :=
  rfl

/-- `out` is the result of the registry step -/
structure UpdateSpec (st : State F) (r : Round) (out : Registry × Option Nat) (st' : State F) : Prop where
  inv : StateInv st'
  cfg : st'.cfg = st.cfg
  registry : st'.registry = out.1
  roundFlowId : st'.roundFlowId = out.2.getD st.roundFlowId
  flow : ∀ id, lookupFlow st'.flows id =
    if id = 0 ∨ out.2 = some id then some ((flowOr st id).step r) else lookupFlow st.flows id

theorem updateFromRound_spec (st : State F) (r : Round) (hinv : StateInv st) (hwf : RoundWF r) :
    ∃ st', st.updateFromRound r = .ok st' ∧
      UpdateSpec st r (regStep st.cfg.maxFlows st.registry (roundFlow r)) st' := by
  have hspec := regStep_spec st.cfg.maxFlows st.registry (roundFlow r) hinv.reg hinv.bound
  rw [updateFromRound_eq, updateTraceFlow_ok st hinv defaultFlowId r hwf]
  simp only [R.bind]
  generalize regStep st.cfg.maxFlows st.registry (roundFlow r) = out at hspec ⊢
  let st1 : State F := { st with flows := setFlow st.flows defaultFlowId ((flowOr st defaultFlowId).step r) }
  have hinv1 : ∀ rf : Nat, StateInv ({ st1 with registry := out.1, roundFlowId := rf } : State F) :=
    fun _ => ⟨hspec.inv, hspec.bound, (hinv.setFlow_step defaultFlowId r).flows⟩
  cases ho : out.2 with
  | none =>
    refine ⟨_, rfl, hinv1 st.roundFlowId, rfl, rfl, by rw [ho]; rfl, fun id => ?_⟩
    simp only [ho, lookupFlow_setFlow, defaultFlowId]
    by_cases h : id = 0 <;> simp [h]
  | some fid =>
    have hfid : fid ≠ 0 := by have := (hspec.attributed fid ho).1; omega
    have hfo : flowOr ({ st1 with registry := out.1, roundFlowId := fid } : State F) fid = flowOr st fid := by
      simp [flowOr, st1, lookupFlow_setFlow, hfid, defaultFlowId]
    refine ⟨_, updateTraceFlow_ok _ (hinv1 fid) fid r hwf, (hinv1 fid).setFlow_step fid r, rfl, rfl,
      by rw [ho]; rfl, fun id => ?_⟩
    -- `id = fid`, `id = 0`, other: which of the two `setFlow`s is read
    simp only [ho, lookupFlow_setFlow, st1, defaultFlowId]
    by_cases h : id = fid
    · subst h
      simp
      exact congrArg (·.step r) hfo
    · by_cases h0 : id = 0
      · subst h0
        simp [h]
      · simp [h, h0, Ne.symm h]

/-- the flow id each round is attributed to (`none`: registry full and no stored flow compatible) -/
def attributions (maxFlows : Nat) : Registry → List Round → List (Option Nat)
  | _, [] => []
  | reg, r :: rs =>
    (regStep maxFlows reg (roundFlow r)).2 :: attributions maxFlows (regStep maxFlows reg (roundFlow r)).1 rs

def regRun (maxFlows : Nat) : Registry → List Round → Registry
  | reg, [] => reg
  | reg, r :: rs => regRun maxFlows (regStep maxFlows reg (roundFlow r)).1 rs

/-- the rounds that flow `id` aggregates (the default flow: all) -/
def roundsFor (id : Nat) : List Round → List (Option Nat) → List Round
  | r :: rs, a :: as => if id = 0 ∨ a = some id then r :: roundsFor id rs as else roundsFor id rs as
  | _, _ => []

structure RegRunSpec (mf : Nat) (reg : Registry) (hist : List Round) : Prop where
  le : Registry.le reg (regRun mf reg hist)
  length_le : reg.flows.length ≤ (regRun mf reg hist).flows.length
  attributed : ∀ a ∈ attributions mf reg hist, ∀ id, a = some id →
    1 ≤ id ∧ id ≤ (regRun mf reg hist).flows.length

theorem regRun_spec (mf : Nat) (hist : List Round) : ∀ reg, RegInv reg → reg.flows.length ≤ mf →
    RegRunSpec mf reg hist := by
  induction hist with
  | nil => intro reg _ _; exact ⟨Registry.le_refl _, Nat.le_refl _, by simp [attributions]⟩
  | cons r rs ih =>
    intro reg hi hb
    have hs := regStep_spec mf reg (roundFlow r) hi hb
    have t := ih _ hs.inv hs.bound
    refine ⟨Registry.le_trans hs.le t.le, Nat.le_trans hs.length_le t.length_le, ?_⟩
    intro a ha id hid
    simp only [attributions, List.mem_cons] at ha
    rcases ha with rfl | ha
    · have := hs.attributed id hid
      exact ⟨this.1, Nat.le_trans this.2.1 t.length_le⟩
    · exact t.attributed a ha id hid

theorem attributions_length (mf : Nat) (hist : List Round) : ∀ reg, (attributions mf reg hist).length = hist.length := by
  induction hist with
  | nil => intro _; rfl
  | cons r rs ih => intro reg; simp [attributions, ih]

theorem roundsFor_zero (hist : List Round) : ∀ as, as.length = hist.length → roundsFor 0 hist as = hist := by
  induction hist with
  | nil => intro as _; cases as <;> rfl
  | cons r rs ih =>
    intro as h
    cases as with
    | nil => simp at h
    | cons a as => simp [roundsFor, ih as (by simpa using h)]

theorem roundsFor_sublist (id : Nat) : ∀ (hist : List Round) (as : List (Option Nat)),
    (roundsFor id hist as).Sublist hist
  | [], _ => by simp [roundsFor]
  | _ :: _, [] => by simp [roundsFor]
  | r :: rs, a :: as => by
    simp only [roundsFor]
    split
    · exact (roundsFor_sublist id rs as).cons_cons r
    · exact (roundsFor_sublist id rs as).cons r

theorem State.run_append (h1 h2 : List Round) : ∀ (st : State F),
    State.run st (h1 ++ h2) = (State.run st h1 >>= fun st1 => State.run st1 h2) := by
  induction h1 with
  | nil => intro st; rfl
  | cons r rs ih =>
    intro st
    simp only [List.cons_append, State.run]
    cases st.updateFromRound r with
    | ok st1 => simp [ih st1]
    | err e => rfl
    | panic => rfl

structure RunSpec (st : State F) (hist : List Round) (as : List (Option Nat)) (st' : State F) : Prop where
  inv : StateInv st'
  cfg : st'.cfg = st.cfg
  registry : st'.registry = regRun st.cfg.maxFlows st.registry hist
  roundFlowId : st'.roundFlowId = ((as.filterMap id).getLast?).getD st.roundFlowId
  flow : ∀ fid, lookupFlow st'.flows fid =
    if roundsFor fid hist as = [] then lookupFlow st.flows fid
    else some ((roundsFor fid hist as).foldl FlowState.step (flowOr st fid))

theorem State.run_spec (hist : List Round) (hwf : ∀ r ∈ hist, RoundWF r) : ∀ (st : State F), StateInv st →
    ∃ st', State.run st hist = .ok st' ∧
      RunSpec st hist (attributions st.cfg.maxFlows st.registry hist) st' := by
  induction hist with
  | nil => intro st hinv; exact ⟨st, rfl, hinv, rfl, rfl, rfl, fun fid => by simp [roundsFor]⟩
  | cons r rest ih =>
    intro st hinv
    obtain ⟨st1, a1, a⟩ := updateFromRound_spec st r hinv (hwf r (by simp))
    obtain ⟨st', b1, b⟩ := ih (fun x hx => hwf x (by simp [hx])) st1 a.inv
    have b4 := b.registry
    have b5 := b.roundFlowId
    have b6 := b.flow
    rw [a.cfg, a.registry] at b4 b5 b6
    refine ⟨st', by simp [State.run, a1, b1], b.inv, b.cfg.trans a.cfg, b4, ?_, fun fid => ?_⟩
    · rw [b5, a.roundFlowId]
      simp only [attributions, List.filterMap_cons]
      cases (regStep st.cfg.maxFlows st.registry (roundFlow r)).2 <;> simp [List.getLast?_cons]
    · rw [b6, flowOr, a.cfg, a.flow fid]
      simp only [attributions, roundsFor]
      by_cases hc : fid = 0 ∨ (regStep st.cfg.maxFlows st.registry (roundFlow r)).2 = some fid
      · simp only [hc, if_true, Option.getD_some, List.foldl_cons]
        split <;> simp [*]
      · simp only [hc, if_false]
        rfl

theorem State.run_spec_new (cfg : Cfg) (hist : List Round) (hwf : ∀ r ∈ hist, RoundWF r) :
    ∃ st, State.run (State.new (F := F) cfg) hist = .ok st ∧
      RunSpec (State.new cfg) hist (attributions cfg.maxFlows Registry.new hist) st ∧
      lookupFlow st.flows 0 = some (hist.foldl FlowState.step (FlowState.new cfg.maxSamples)) ∧
      ∀ id, id ≠ 0 → lookupFlow st.flows id =
        if roundsFor id hist (attributions cfg.maxFlows Registry.new hist) = [] then none
        else some ((roundsFor id hist (attributions cfg.maxFlows Registry.new hist)).foldl FlowState.step
          (FlowState.new cfg.maxSamples)) := by
  obtain ⟨st, h1, h⟩ := State.run_spec (F := F) hist hwf (State.new cfg) (StateInv.new cfg)
  have h : RunSpec (State.new cfg) hist (attributions cfg.maxFlows Registry.new hist) st := h
  have hflow := h.flow
  simp only [flowOr_new, lookupFlow_new] at hflow
  refine ⟨st, h1, h, ?_, fun id hid => by rw [hflow id, if_neg hid]⟩
  rw [hflow 0, roundsFor_zero hist _ (attributions_length _ _ _)]
  split
  · next hnil =>
    rw [hnil]
    rfl
  · rfl

theorem default_flow_reached (cfg : Cfg) (hist : List Round) (hwf : ∀ r ∈ hist, RoundWF r) :
    ∃ st fs, State.run (State.new (F := F) cfg) hist = .ok st ∧ lookupFlow st.flows 0 = some fs ∧
      Reached cfg.maxSamples hist fs := by
  obtain ⟨st, h1, _, h0, _⟩ := State.run_spec_new (F := F) cfg hist hwf
  exact ⟨st, _, h1, h0, reached_foldl _ hist hwf⟩

theorem stored_flow_reached (cfg : Cfg) (hist : List Round) (hwf : ∀ r ∈ hist, RoundWF r) :
    ∃ st, State.run (State.new (F := F) cfg) hist = .ok st ∧
      ∀ id fs, lookupFlow st.flows id = some fs →
        ∃ rs : List Round, (∀ r ∈ rs, RoundWF r) ∧ Reached cfg.maxSamples rs fs := by
  obtain ⟨st, h1, _, h0, hid⟩ := State.run_spec_new (F := F) cfg hist hwf
  refine ⟨st, h1, fun id fs hfs => ?_⟩
  by_cases hz : id = 0
  · subst hz
    cases h0.symm.trans hfs
    exact ⟨hist, hwf, reached_foldl _ hist hwf⟩
  · have hwf' : ∀ r ∈ roundsFor id hist (attributions cfg.maxFlows Registry.new hist), RoundWF r :=
      fun r hr => hwf r ((roundsFor_sublist id hist _).subset hr)
    rw [hid id hz] at hfs
    split at hfs
    · cases hfs
    · cases hfs
      exact ⟨_, hwf', reached_foldl _ _ hwf'⟩

end TV.Agg
