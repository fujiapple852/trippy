import TrippyVerif.Spec.Reagg
/-!
One round of the trace-state aggregator is a fold of per-outcome steps: `hopStep` on a hop, `applyTag` on a flow state,
`FlowState.step` for a whole round, which is what `FlowState::update_from_round` computes on a well-formed round;
`hop_after_round` reads it on one hop (C19).
-/
namespace TV.Agg
open TV.Strat TV.Reagg

variable {F : Type} [Num F]

def hopStep (ms : Nat) (h : Hop F) : Outcome → Hop F
  | .complete c nat =>
    match nat with
    | some n => { h.complete ms c with lastNatStatus := n }
    | none => h.complete ms c
  | .awaited p loss => h.awaited ms p loss
  | .failed p => h.failed ms p

theorem hopStep_complete (ms : Nat) (h : Hop F) (c : Complete) (n : Option NatStatus) :
    hopStep ms h (.complete c n) = { h.complete ms c with lastNatStatus := n.getD h.lastNatStatus } := by
  cases n <;> rfl

theorem hopStep_nat (ms : Nat) (h : Hop F) (o : Outcome) :
    (hopStep ms h o).lastNatStatus = o.nat.getD h.lastNatStatus := by
  cases o with
  | complete c n => cases n <;> rfl
  | _ => rfl

def FlowState.applyTag (fs : FlowState F) (tag : Nat × Outcome) : FlowState F :=
  let fs1 := (fs.updateLowestTtl tag.1).updateRound tag.2.probe.round
  { fs1 with hops := fs1.hops.modify (tag.1 - 1) (fun h => hopStep fs.maxSamples h tag.2) }

/-- `FlowState::update_lowest_ttl` on the field it changes -/
def lowStep (l t : Nat) : Nat := if l = 0 then t else min l t

omit [Num F] in
theorem updateLowestTtl_eq (fs : FlowState F) (t : Nat) :
    fs.updateLowestTtl t = { fs with lowestTtl := lowStep fs.lowestTtl t } := by
  unfold FlowState.updateLowestTtl lowStep
  split <;> rfl

theorem applyTag_eq (fs : FlowState F) (tag : Nat × Outcome) :
    fs.applyTag tag =
      { fs with
        lowestTtl := lowStep fs.lowestTtl tag.1
        round := (fs.updateRound tag.2.probe.round).round
        hops := fs.hops.modify (tag.1 - 1) (fun h => hopStep fs.maxSamples h tag.2) } := by
  rw [FlowState.applyTag, updateLowestTtl_eq]
  rfl

set_option linter.unusedSectionVars false in
@[simp] theorem updateRound_maxSamples (fs : FlowState F) (t : Nat) :
    (fs.updateRound t).maxSamples = fs.maxSamples := rfl

set_option linter.unusedSectionVars false in
@[simp] theorem updateRound_hops (fs : FlowState F) (t : Nat) :
    (fs.updateRound t).hops = fs.hops := rfl

theorem set_eq_modify {α} (l : List α) (i : Nat) (x : α) (f : α → α) (h : l[i]? = some x) :
    l.set i (f x) = l.modify i f := by
  apply List.ext_getElem?
  intro j
  rw [List.getElem?_set, List.getElem?_modify]
  by_cases hij : i = j
  · subst hij
    obtain ⟨hi, hx⟩ := List.getElem?_eq_some_iff.1 h
    simp [hi, hx]
  · simp [hij]

omit [Num F] in
theorem modifyHop_ok (fs : FlowState F) (ttl : Nat) (f : Hop F → Hop F) (h1 : 1 ≤ ttl)
    (h2 : ttl ≤ fs.hops.length) :
    fs.modifyHop ttl f = .ok { fs with hops := fs.hops.modify (ttl - 1) f } := by
  unfold FlowState.modifyHop
  have h0 : ttl ≠ 0 := by omega
  have hlt : ttl - 1 < fs.hops.length := by omega
  simp only [h0, if_false]
  rw [List.getElem?_eq_getElem hlt]
  simp only
  rw [set_eq_modify _ _ _ _ (List.getElem?_eq_getElem hlt)]

omit [Num F] in
/-- `ttl = 0` panics: `usize::from(ttl) - 1` underflows -/
theorem modifyHop_zero (fs : FlowState F) (f : Hop F → Hop F) : fs.modifyHop 0 f = .panic := by
  simp [FlowState.modifyHop]

omit [Num F] in
theorem modifyHop_big (fs : FlowState F) (ttl : Nat) (f : Hop F → Hop F) (h : fs.hops.length < ttl) :
    fs.modifyHop ttl f = .panic := by
  unfold FlowState.modifyHop
  have h0 : ttl ≠ 0 := by omega
  simp only [h0, if_false]
  rw [List.getElem?_eq_none (by omega)]

theorem dropWhile_congr {α} (p q : α → Bool) (l : List α) (h : ∀ x ∈ l, p x = q x) :
    l.dropWhile p = l.dropWhile q := by
  induction l with
  | nil => rfl
  | cons a l ih =>
    simp only [List.dropWhile_cons, h a (by simp)]
    split
    · exact ih (fun x hx => h x (by simp [hx]))
    · rfl

theorem skipPred_of_ttl (t : Nat) (s : Slot) :
    skipPred t s = match slotTtl s with | some t' => decide (t' ≤ t) | none => true := by
  cases s <;> rfl

theorem mem_ttls {s : Slot} {l : List Slot} {t : Nat} (hs : s ∈ l) (ht : slotTtl s = some t) :
    t ∈ ttls l := List.mem_filterMap.2 ⟨s, hs, ht⟩

theorem ascending_split {pre post : List Slot} {s : Slot} {t : Nat} (hst : slotTtl s = some t)
    (hasc : (ttls (pre ++ s :: post)).Pairwise (· < ·)) :
    (∀ t' ∈ ttls pre, t' < t) ∧ (∀ t' ∈ ttls post, t < t') := by
  have hsplit : ttls (pre ++ s :: post) = ttls pre ++ t :: ttls post := by
    simp [ttls, List.filterMap_append, hst]
  rw [hsplit, List.pairwise_append, List.pairwise_cons] at hasc
  exact ⟨fun t' ht' => hasc.2.2 t' ht' t (by simp), hasc.2.1.1⟩

theorem skipPred_of_lt {t : Nat} {s : Slot} (h : ∀ t', slotTtl s = some t' → t' < t) : skipPred t s = true := by
  rw [skipPred_of_ttl]
  cases hs : slotTtl s with
  | none => rfl
  | some t' => exact decide_eq_true (Nat.le_of_lt (h t' hs))

theorem skipPred_of_gt {t : Nat} {s : Slot} (h : ∀ t', slotTtl s = some t' → t < t') :
    skipPred t s = (slotTtl s).isNone := by
  rw [skipPred_of_ttl]
  cases hs : slotTtl s with
  | none => rfl
  | some t' => exact decide_eq_false (Nat.not_le_of_gt (h t' hs))

theorem isForwardLoss_eq (pre post : List Slot) (a : Probe)
    (hasc : (ttls (pre ++ Slot.awaited a :: post)).Pairwise (· < ·)) :
    isForwardLoss (pre ++ Slot.awaited a :: post) a.ttl = laterSilent post := by
  obtain ⟨hpre, hpost⟩ := ascending_split (s := .awaited a) rfl hasc
  unfold isForwardLoss laterSilent
  rw [List.dropWhile_append_of_pos fun x hx => skipPred_of_lt fun t' ht' => hpre t' (mem_ttls hx ht'),
    List.dropWhile_cons_of_pos (by simp [skipPred]),
    dropWhile_congr _ _ post fun x hx => skipPred_of_gt fun t' ht' => hpost t' (mem_ttls hx ht')]

theorem fwdSeen_snoc (pre : List Slot) (s : Slot) (post : List Slot) :
    fwdSeen (pre ++ [s]) post = (fwdSeen pre (s :: post) || isFwdHead s post) := by
  induction pre with
  | nil => simp [fwdSeen]
  | cons x pre ih => simp [fwdSeen, ih, Bool.or_assoc]

theorem lastCk_append (a b : List Slot) : lastCk (a ++ b) = (lastCk b).or (lastCk a) := by
  simp [lastCk, List.filterMap_append, List.getLast?_append, Option.map_or]

theorem lastCk_snoc (pre : List Slot) (s : Slot) :
    lastCk (pre ++ [s]) = match ckPair s with | some (_, a) => some a | none => lastCk pre := by
  rw [lastCk_append]
  cases h : ckPair s <;> simp [lastCk, h]

theorem lastCk_getD {pre : List Slot} {w : Nat} (h : ∀ s ∈ pre, ∀ p, ckPair s = some p → p.2 = w)
    (v : Nat) : (lastCk pre).getD v = if pre.filterMap ckPair = [] then v else w := by
  unfold lastCk
  cases hl : (pre.filterMap ckPair).getLast? with
  | none => simp [List.getLast?_eq_none_iff.1 hl]
  | some q =>
    obtain ⟨s, hs, hsq⟩ := List.mem_filterMap.1 (List.mem_of_getLast? hl)
    have hne : pre.filterMap ckPair ≠ [] := fun h0 => by simp [h0] at hl
    simp [hne, h s hs q hsq]

/-- the `254` of `RoundWF` and of the hop-table lengths is `MAX_TTL` -/
theorem MAX_TTL_eq : MAX_TTL = 254 := rfl

theorem FlowState.new_len (ms : Nat) : (FlowState.new (F := F) ms).hops.length = 254 :=
  List.length_replicate.trans MAX_TTL_eq

theorem FlowState.new_hops (ms : Nat) (i : Nat) (hi : i < 254) :
    (FlowState.new (F := F) ms).hops[i]? = some Hop.default :=
  List.getElem?_replicate.trans (if_pos (MAX_TTL_eq ▸ hi))

/-- the updater's round-local variables are the positional quantities of the spec -/
structure UInv (pre post : List Slot) (u : Updater F) : Prop where
  ck : u.prevHopChecksum = lastCk pre
  fwd : u.forwardLoss = fwdSeen pre post
  len : u.state.hops.length = 254

def Updater.next (u : Updater F) (pre : List Slot) (s : Slot) (post : List Slot) : Updater F :=
  { state := match tagOf pre s post with
      | some tag => u.state.applyTag tag
      | none => u.state,
    prevHopChecksum := lastCk (pre ++ [s]),
    forwardLoss := fwdSeen (pre ++ [s]) post }

theorem natStatus_eq (expected actual : Nat) (prev : Option Nat) :
    natStatus expected actual prev =
      (if prev.getD expected = actual then .notDetected else .detected, actual) := by
  cases prev with
  | none =>
    simp only [natStatus, Option.getD_none]
    split <;> rfl
  | some p =>
    simp only [natStatus, Option.getD_some]
    split
    · next h => rw [h]
    · rfl

theorem ckPair_complete {c : Complete} {p : Nat × Nat} :
    ckPair (.complete c) = some p ↔ c.expCk = some p.1 ∧ c.actCk = some p.2 := by
  cases he : c.expCk <;> cases ha : c.actCk <;> simp [ckPair, he, ha, Prod.ext_iff]

theorem natOf_of_ckPair {pre : List Slot} {c : Complete} {e a : Nat}
    (h : ckPair (.complete c) = some (e, a)) :
    natOf pre c = some (if (lastCk pre).getD e = a then .notDetected else .detected) := by
  obtain ⟨he, ha⟩ := ckPair_complete.1 h
  simp [natOf, he, ha]

theorem natOf_of_no_ckPair {pre : List Slot} {c : Complete} (h : ckPair (.complete c) = none) :
    natOf pre c = none := by
  unfold natOf
  split
  · next e a he ha => simp [ckPair, he, ha] at h
  · rfl

omit [Num F] in
@[simp] theorem updateLowestTtl_maxSamples (fs : FlowState F) (t : Nat) :
    (fs.updateLowestTtl t).maxSamples = fs.maxSamples := by rw [updateLowestTtl_eq]

theorem modifyHop_applyTag (fs : FlowState F) (t : Nat) (o : Outcome) (h1 : 1 ≤ t) (h2 : t ≤ fs.hops.length) :
    ((fs.updateLowestTtl t).updateRound o.probe.round).modifyHop t (fun h => hopStep fs.maxSamples h o) =
      .ok (fs.applyTag (t, o)) := by
  rw [modifyHop_ok _ _ _ h1 (by simpa [updateLowestTtl_eq] using h2)]
  rfl

theorem updateForProbe_ok (whole pre post : List Slot) (s : Slot) (u : Updater F)
    (hw : whole = pre ++ s :: post) (hinv : UInv pre (s :: post) u)
    (hb : ∀ t ∈ ttls whole, 1 ≤ t ∧ t ≤ 254) (hasc : (ttls whole).Pairwise (· < ·)) :
    u.updateForProbe whole s = .ok (u.next pre s post) := by
  obtain ⟨hck, hfwd, hlen⟩ := hinv
  have hstep := fun t o (ht : slotTtl s = some t) =>
    have hbt := hb t (mem_ttls (by simp [hw]) ht)
    modifyHop_applyTag u.state t o hbt.1 (hlen ▸ hbt.2)
  simp only [Updater.next, fwdSeen_snoc, lastCk_snoc, ← hck, ← hfwd]
  cases s with
  | notSent => simp [Updater.updateForProbe, tagOf, isFwdHead, ckPair]
  | skipped => simp [Updater.updateForProbe, tagOf, isFwdHead, ckPair]
  | failed p =>
    have := hstep p.ttl (.failed p) rfl
    simp only [hopStep, Outcome.probe] at this
    simp [Updater.updateForProbe, tagOf, isFwdHead, ckPair, this]
  | awaited a =>
    have hifl : isForwardLoss whole a.ttl = laterSilent post := by
      subst hw
      exact isForwardLoss_eq pre post a hasc
    have := fun l => hstep a.ttl (.awaited a l) rfl
    simp only [hopStep, Outcome.probe] at this
    simp only [Updater.updateForProbe, tagOf, lossOf, isFwdHead, ckPair, hifl, ← hfwd]
    -- the three branches of the code, by the sticky flag and the positional test
    cases u.forwardLoss <;> cases laterSilent post <;> simp [this]
  | complete c =>
    have hsome := fun n => hstep c.probe.ttl (.complete c (some n)) rfl
    have hnone := hstep c.probe.ttl (.complete c none) rfl
    simp only [hopStep, Outcome.probe] at hsome hnone
    simp only [Updater.updateForProbe, tagOf, natOf, isFwdHead, ckPair, ← hck, natStatus_eq]
    split
    · next he ha => simp [hsome, he, ha]
    · simp [hnone]

theorem applyTag_len (fs : FlowState F) (tag : Nat × Outcome) :
    (fs.applyTag tag).hops.length = fs.hops.length := by
  rw [applyTag_eq]
  exact List.length_modify ..

theorem Updater.loop_ok (whole : List Slot) (hb : ∀ t ∈ ttls whole, 1 ≤ t ∧ t ≤ 254)
    (hasc : (ttls whole).Pairwise (· < ·)) :
    ∀ (rest pre : List Slot) (u : Updater F), whole = pre ++ rest → UInv pre rest u →
      ∃ u', Updater.loop whole u rest = .ok u' ∧
        u'.state = (tagSlots pre rest).foldl FlowState.applyTag u.state := by
  intro rest
  induction rest with
  | nil => intro pre u _ _; exact ⟨u, rfl, rfl⟩
  | cons s post ih =>
    intro pre u hw hinv
    have h1 := updateForProbe_ok whole pre post s u hw hinv hb hasc
    have hnext : UInv (pre ++ [s]) post (u.next pre s post) := by
      refine ⟨rfl, rfl, ?_⟩
      unfold Updater.next
      cases tagOf pre s post with
      | none => exact hinv.len
      | some tag => exact (applyTag_len _ _).trans hinv.len
    obtain ⟨u', h2, h3⟩ := ih (pre ++ [s]) (u.next pre s post) (by simp [hw]) hnext
    refine ⟨u', by simp [Updater.loop, h1, h2], ?_⟩
    rw [h3, show tagSlots pre (s :: post) = (tagOf pre s post).toList ++ tagSlots (pre ++ [s]) post from rfl]
    unfold Updater.next
    cases tagOf pre s post <;> simp

/-- what `apply` does before the probe loop -/
def FlowState.begin (fs : FlowState F) (r : Round) : FlowState F :=
  { fs with roundCount := fs.roundCount + 1, highestTtl := max fs.highestTtl r.largestTtl,
            highestTtlForRound := r.largestTtl }

def FlowState.step (fs : FlowState F) (r : Round) : FlowState F :=
  (tagSlots [] r.probes).foldl FlowState.applyTag (fs.begin r)

theorem applyRound_step (fs : FlowState F) (r : Round) (hlen : fs.hops.length = 254) (hwf : RoundWF r) :
    fs.applyRound r = .ok (fs.step r) := by
  obtain ⟨hb, hasc, _⟩ := hwf
  obtain ⟨u', h1, h2⟩ := Updater.loop_ok (F := F) r.probes hb hasc r.probes []
    { state := fs.begin r, prevHopChecksum := none, forwardLoss := false } rfl
    ⟨by simp [lastCk], by simp [fwdSeen], by simpa [FlowState.begin] using hlen⟩
  unfold FlowState.applyRound
  simp only [FlowState.begin] at h1 h2
  simp [h1, h2, FlowState.begin, FlowState.step]

structure TagsSpec (ts : List Nat) (fs fs' : FlowState F) : Prop where
  maxSamples : fs'.maxSamples = fs.maxSamples
  roundCount : fs'.roundCount = fs.roundCount
  highestTtl : fs'.highestTtl = fs.highestTtl
  highestTtlForRound : fs'.highestTtlForRound = fs.highestTtlForRound
  len : fs'.hops.length = fs.hops.length
  lowestTtl : fs'.lowestTtl = ts.foldl lowStep fs.lowestTtl

theorem foldTags_spec (tags : List (Nat × Outcome)) : ∀ (fs : FlowState F),
    TagsSpec (tags.map (·.1)) fs (tags.foldl FlowState.applyTag fs) := by
  induction tags with
  | nil => intro fs; exact ⟨rfl, rfl, rfl, rfl, rfl, rfl⟩
  | cons tag tags ih =>
    intro fs
    have t := ih (fs.applyTag tag)
    have e := applyTag_eq fs tag
    exact ⟨t.maxSamples.trans (by rw [e]), t.roundCount.trans (by rw [e]), t.highestTtl.trans (by rw [e]),
      t.highestTtlForRound.trans (by rw [e]), t.len.trans (applyTag_len fs tag), t.lowestTtl.trans (by rw [e]; rfl)⟩

theorem forTtl_cons (t : Nat) (x : Nat × Outcome) (tags : List (Nat × Outcome)) :
    forTtl t (x :: tags) = if x.1 = t then x.2 :: forTtl t tags else forTtl t tags := by
  by_cases h : x.1 = t <;> simp [forTtl, h]

theorem forTtl_append (t : Nat) (a b : List (Nat × Outcome)) :
    forTtl t (a ++ b) = forTtl t a ++ forTtl t b := by
  simp [forTtl, List.filterMap_append]

theorem mem_forTtl {t : Nat} {o : Outcome} {tags : List (Nat × Outcome)} :
    o ∈ forTtl t tags ↔ (t, o) ∈ tags := by
  simp only [forTtl, List.mem_filterMap]
  constructor
  · rintro ⟨x, hx, h⟩
    split at h
    · next ht =>
      cases h
      exact ht ▸ hx
    · cases h
  · intro h
    exact ⟨(t, o), h, if_pos rfl⟩

theorem mem_outcomes {t : Nat} {o : Outcome} {hist : List Round} :
    o ∈ outcomes t hist ↔ ∃ r ∈ hist, (t, o) ∈ tagSlots [] r.probes := by
  simp only [outcomes, List.mem_flatMap, roundOutcomes, mem_forTtl]

theorem forTtl_nil_of_not_mem (t : Nat) (tags : List (Nat × Outcome)) (h : t ∉ tags.map (·.1)) :
    forTtl t tags = [] :=
  List.eq_nil_iff_forall_not_mem.2 fun _ ho => h (List.mem_map_of_mem (mem_forTtl.1 ho))

theorem foldTags_hop (tags : List (Nat × Outcome)) (h1 : ∀ x ∈ tags, 1 ≤ x.1) (i : Nat) :
    ∀ (fs : FlowState F),
    (tags.foldl FlowState.applyTag fs).hops[i]? =
      (fs.hops[i]?).map (fun h => (forTtl (i + 1) tags).foldl (hopStep fs.maxSamples) h) := by
  induction tags with
  | nil => intro fs; simp [forTtl]
  | cons tag tags ih =>
    intro fs
    have ht := h1 tag (by simp)
    rw [List.foldl_cons, ih (fun x hx => h1 x (by simp [hx])), forTtl_cons, applyTag_eq]
    simp only [List.getElem?_modify]
    by_cases hti : tag.1 = i + 1
    · simp only [hti, if_true, List.foldl_cons]
      cases fs.hops[i]? <;> simp
    · have : ¬ (tag.1 - 1 = i) := by omega
      simp only [hti, this, if_false]
      cases fs.hops[i]? <;> simp

theorem tagOf_ttl (pre post : List Slot) (s : Slot) :
    (tagOf pre s post).map (·.1) = slotTtl s := by cases s <;> rfl

theorem slotTtl_of_tagOf {pre post : List Slot} {s : Slot} {t : Nat} {o : Outcome}
    (h : tagOf pre s post = some (t, o)) : slotTtl s = some t := by
  rw [← tagOf_ttl pre post s, h]
  rfl

theorem tagSlots_ttls (rest : List Slot) : ∀ pre, (tagSlots pre rest).map (·.1) = ttls rest := by
  induction rest with
  | nil => intro _; rfl
  | cons s post ih =>
    intro pre
    simp only [tagSlots, List.map_append, ih, ttls, List.filterMap_cons, ← tagOf_ttl pre post s]
    cases tagOf pre s post <;> rfl

/-- of the earlier tags `X` only the ttls matter (to `forTtl`) -/
theorem tagSlots_split (a : List Slot) (s : Slot) (b : List Slot) : ∀ p0,
    ∃ X, X.map (·.1) = ttls a ∧
      tagSlots p0 (a ++ s :: b) = X ++ ((tagOf (p0 ++ a) s b).toList ++ tagSlots (p0 ++ a ++ [s]) b) := by
  induction a with
  | nil => intro p0; exact ⟨[], rfl, by simp [tagSlots]⟩
  | cons x a ih =>
    intro p0
    obtain ⟨X, h1, h2⟩ := ih (p0 ++ [x])
    refine ⟨(tagOf p0 x (a ++ s :: b)).toList ++ X, ?_, ?_⟩
    · simp only [List.map_append, h1, ttls, List.filterMap_cons, ← tagOf_ttl p0 (a ++ s :: b) x]
      cases tagOf p0 x (a ++ s :: b) <;> rfl
    · simp only [List.cons_append, tagSlots, h2, List.append_assoc, List.nil_append]

theorem tagOf_probe_ttl {pre post : List Slot} {s : Slot} {x : Nat × Outcome}
    (h : tagOf pre s post = some x) : x.2.probe.ttl = x.1 := by
  cases s <;> cases h <;> rfl

theorem tagSlots_probe_ttl (rest : List Slot) : ∀ pre, ∀ x ∈ tagSlots pre rest, x.2.probe.ttl = x.1 := by
  induction rest with
  | nil => intro pre x hx; simp [tagSlots] at hx
  | cons s post ih =>
    intro pre x hx
    simp only [tagSlots, List.mem_append] at hx
    rcases hx with hx | hx
    · exact tagOf_probe_ttl (Option.mem_toList.1 hx)
    · exact ih _ x hx

theorem outcomes_ttl (t : Nat) (hist : List Round) : ∀ o ∈ outcomes t hist, o.probe.ttl = t := by
  intro o ho
  obtain ⟨r, _, h⟩ := mem_outcomes.1 ho
  exact tagSlots_probe_ttl r.probes [] _ h

theorem FlowState.step_spec (fs : FlowState F) (r : Round) : TagsSpec (ttls r.probes) (fs.begin r) (fs.step r) :=
  tagSlots_ttls r.probes [] ▸ foldTags_spec (tagSlots [] r.probes) (fs.begin r)

theorem FlowState.step_maxSamples (fs : FlowState F) (r : Round) : (fs.step r).maxSamples = fs.maxSamples :=
  (FlowState.step_spec fs r).maxSamples

theorem FlowState.step_len (fs : FlowState F) (r : Round) : (fs.step r).hops.length = fs.hops.length :=
  (FlowState.step_spec fs r).len

theorem FlowState.step_roundCount (fs : FlowState F) (r : Round) : (fs.step r).roundCount = fs.roundCount + 1 :=
  (FlowState.step_spec fs r).roundCount

theorem FlowState.step_highestTtl (fs : FlowState F) (r : Round) :
    (fs.step r).highestTtl = max fs.highestTtl r.largestTtl :=
  (FlowState.step_spec fs r).highestTtl

theorem FlowState.step_highestTtlForRound (fs : FlowState F) (r : Round) :
    (fs.step r).highestTtlForRound = r.largestTtl :=
  (FlowState.step_spec fs r).highestTtlForRound

theorem FlowState.step_lowestTtl (fs : FlowState F) (r : Round) :
    (fs.step r).lowestTtl = (ttls r.probes).foldl lowStep fs.lowestTtl :=
  (FlowState.step_spec fs r).lowestTtl

theorem FlowState.step_hop (fs : FlowState F) (r : Round) (hpos : ∀ t ∈ ttls r.probes, 1 ≤ t) (i : Nat) :
    (fs.step r).hops[i]? =
      (fs.hops[i]?).map (fun h => (roundOutcomes (i + 1) r).foldl (hopStep fs.maxSamples) h) :=
  foldTags_hop (tagSlots [] r.probes)
    (fun _ hx => hpos _ (tagSlots_ttls r.probes [] ▸ List.mem_map_of_mem hx)) i (fs.begin r)

theorem roundOutcomes_single (r : Round) (pre post : List Slot) (s : Slot) (t : Nat) (o : Outcome)
    (hsplit : r.probes = pre ++ s :: post) (hasc : (ttls r.probes).Pairwise (· < ·))
    (htag : tagOf pre s post = some (t, o)) : roundOutcomes t r = [o] := by
  obtain ⟨hpre, hpost⟩ := ascending_split (slotTtl_of_tagOf htag) (hsplit ▸ hasc)
  obtain ⟨X, hX, hsplit2⟩ := tagSlots_split pre s post []
  unfold roundOutcomes
  rw [hsplit, hsplit2, forTtl_append, forTtl_append]
  simp only [List.nil_append, htag, Option.toList]
  have hX' : t ∉ X.map (·.1) := by
    rw [hX]
    exact fun hm => Nat.lt_irrefl t (hpre t hm)
  have hpost' : t ∉ (tagSlots (pre ++ [s]) post).map (·.1) := by
    rw [tagSlots_ttls]
    exact fun hm => Nat.lt_irrefl t (hpost t hm)
  rw [forTtl_nil_of_not_mem t X hX', forTtl_nil_of_not_mem t _ hpost']
  simp [forTtl]

theorem hop_after_round (fs : FlowState F) (r : Round) (hlen : fs.hops.length = 254) (hwf : RoundWF r)
    (pre post : List Slot) (s : Slot) (t : Nat) (o : Outcome)
    (hsplit : r.probes = pre ++ s :: post) (htag : tagOf pre s post = some (t, o)) :
    ∃ fs' hop, fs.applyRound r = .ok fs' ∧ fs.hops[t - 1]? = some hop ∧
      fs'.hops[t - 1]? = some (hopStep fs.maxSamples hop o) := by
  have hb := hwf.1 t (mem_ttls (l := r.probes) (by simp [hsplit]) (slotTtl_of_tagOf htag))
  have hlt : t - 1 < fs.hops.length := by omega
  refine ⟨_, fs.hops[t - 1], applyRound_step fs r hlen hwf, List.getElem?_eq_getElem hlt, ?_⟩
  rw [FlowState.step_hop fs r (fun t ht => (hwf.1 t ht).1), show t - 1 + 1 = t by omega,
    roundOutcomes_single r pre post s t o hsplit hwf.2.1 htag]
  simp [List.getElem?_eq_getElem hlt]

theorem run_steps (hist : List Round) (hwf : ∀ r ∈ hist, RoundWF r) : ∀ (fs : FlowState F),
    fs.hops.length = 254 → FlowState.run fs hist = .ok (hist.foldl FlowState.step fs) := by
  induction hist with
  | nil => intro fs _; rfl
  | cons r hist ih =>
    intro fs hlen
    simp only [FlowState.run, applyRound_step fs r hlen (hwf r (by simp)), List.foldl_cons]
    exact ih (fun x hx => hwf x (by simp [hx])) _ (by rw [FlowState.step_len]; exact hlen)

end TV.Agg
