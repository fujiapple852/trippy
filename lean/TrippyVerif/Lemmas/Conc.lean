import TrippyVerif.Model.Conc
/-!
Invariant of the readers–writer-lock interleaving semantics for systems whose threads run the
canonical program shapes (one tracer thread with the handler shape; any number of snapshot,
clear and error threads).
-/
namespace TV.Conc

theorem snapshotShape_ne_handlerShape (m : Nat) : snapshotShape ≠ handlerShape m := by
  simp [snapshotShape, handlerShape]

theorem clearShape_ne_handlerShape (m : Nat) : clearShape ≠ handlerShape m := by
  simp [clearShape, handlerShape]

theorem errorShape_ne_handlerShape (m : Nat) : errorShape ≠ handlerShape m := by
  simp [errorShape, handlerShape]

theorem clearShape_ne_snapshotShape : clearShape ≠ snapshotShape := by
  simp [clearShape, snapshotShape]

structure ThOK (m : Nat) (s : Sys) (i : Nat) (t : Th) : Prop where
  shape : t.body = snapshotShape ∨ t.body = clearShape ∨ t.body = errorShape ∨ t.body = handlerShape m
  pc_lt : t.pc < 3
  idle : t.pc = 0 → t.hold = .none
  busyR : t.body = snapshotShape → 1 ≤ t.pc → t.hold = .r
  busyW : t.body ≠ snapshotShape → 1 ≤ t.pc → t.hold = .w
  micro0 : t.pc ≠ 1 → t.micro = 0
  -- the second disjunct is for `m = 0`, a round without micro-steps
  microLt : t.pc = 1 → t.body = handlerShape m → t.micro < m ∨ t.micro = 0
  holdW : t.hold = .w ↔ s.writer = some i
  holdR : t.hold = .r ↔ i ∈ s.readers

/-- `c`: the first round applied since the last `store` -/
def MemOK (m : Nat) (T : Th) (mem : Mem) : Prop :=
  ∃ c, c ≤ T.iter ∧
    ((T.pc = 0 ∧ mem = wholeRounds m c (T.iter - c)) ∨
     (T.pc = 1 ∧ mem = wholeRounds m c (T.iter - c) ++ (roundSteps m T.iter).take T.micro) ∨
     (T.pc = 2 ∧ mem = wholeRounds m c (T.iter - c + 1)))

theorem MemOK.of_pc0 {m T mem} (c : Nat) (hc : c ≤ T.iter) (p : T.pc = 0)
    (e : mem = wholeRounds m c (T.iter - c)) : MemOK m T mem :=
  ⟨c, hc, .inl ⟨p, e⟩⟩

theorem MemOK.of_pc1 {m T mem} (c : Nat) (hc : c ≤ T.iter) (p : T.pc = 1)
    (e : mem = wholeRounds m c (T.iter - c) ++ (roundSteps m T.iter).take T.micro) :
    MemOK m T mem :=
  ⟨c, hc, .inr (.inl ⟨p, e⟩)⟩

theorem MemOK.of_pc2 {m T mem} (c : Nat) (hc : c ≤ T.iter) (p : T.pc = 2)
    (e : mem = wholeRounds m c (T.iter - c + 1)) : MemOK m T mem :=
  ⟨c, hc, .inr (.inr ⟨p, e⟩)⟩

theorem MemOK.whole {m T mem} (h : MemOK m T mem) (hpc : T.pc = 0) : Whole m mem := by
  obtain ⟨c, _, ⟨_, e⟩ | ⟨_, _⟩ | ⟨_, _⟩⟩ := h
  · exact ⟨c, _, e⟩
  · omega
  · omega

theorem MemOK.mid {m T mem} (h : MemOK m T mem) (hpc : T.pc = 1) :
    ∃ c, c ≤ T.iter ∧ mem = wholeRounds m c (T.iter - c) ++ (roundSteps m T.iter).take T.micro := by
  obtain ⟨c, hc, ⟨_, _⟩ | ⟨_, e⟩ | ⟨_, _⟩⟩ := h
  · omega
  · exact ⟨c, hc, e⟩
  · omega

structure SysInv (m tr : Nat) (s : Sys) : Prop where
  ths : ∀ i t, s.ths[i]? = some t → ThOK m s i t
  tracer : ∃ T, s.ths[tr]? = some T ∧ T.body = handlerShape m ∧ MemOK m T s.mem
  others : ∀ i t, s.ths[i]? = some t → i ≠ tr → t.body ≠ handlerShape m
  excl : ∀ i, s.writer = some i → s.readers = []
  nodup : s.readers.Nodup
  obs : ∀ o ∈ s.obs, Whole m o

theorem take_roundSteps_succ (m r j : Nat) (h : j < m) :
    (roundSteps m r).take (j + 1) = (roundSteps m r).take j ++ [(r, j)] := by
  unfold roundSteps
  rw [← List.map_take, ← List.map_take, List.take_range, List.take_range]
  rw [Nat.min_eq_left (by omega), Nat.min_eq_left (by omega), List.range_succ]
  simp

theorem take_roundSteps_all (m r : Nat) : (roundSteps m r).take m = roundSteps m r := by
  unfold roundSteps
  rw [List.take_of_length_le]
  simp

theorem wholeRounds_length (m c k : Nat) : (wholeRounds m c k).length = m * k := by
  induction k with
  | zero => rfl
  | succ k ih => simp [wholeRounds, roundSteps, ih, Nat.mul_succ]

theorem next_body (t : Th) : t.next.body = t.body := by
  unfold Th.next
  split <;> rfl

theorem next_hold (t : Th) : t.next.hold = t.hold := by
  unfold Th.next
  split <;> rfl

theorem next_lt2 {t : Th} (hb : t.body.length = 3) (h : t.pc < 2) :
    t.next = { t with pc := t.pc + 1, micro := 0 } := by
  unfold Th.next; rw [hb, if_neg (by omega)]

theorem next_pc2 {t : Th} (hb : t.body.length = 3) (h : t.pc = 2) :
    t.next = { t with pc := 0, micro := 0, iter := t.iter + 1 } := by
  unfold Th.next; rw [hb, if_pos (by omega)]

theorem ThOK.body_len {m s i t} (ok : ThOK m s i t) : t.body.length = 3 := by
  rcases ok.shape with e | e | e | e <;> rw [e] <;> rfl

theorem instr_cases {m s i t} (ok : ThOK m s i t) :
    (t.pc = 0 ∧ t.body = snapshotShape ∧ t.body[t.pc]? = some .acqR) ∨
    (t.pc = 0 ∧ t.body ≠ snapshotShape ∧ t.body[t.pc]? = some .acqW) ∨
    (t.pc = 1 ∧ t.body = snapshotShape ∧ t.body[t.pc]? = some .copyOut) ∨
    (t.pc = 1 ∧ t.body = clearShape ∧ t.body[t.pc]? = some .store) ∨
    (t.pc = 1 ∧ t.body = errorShape ∧ t.body[t.pc]? = some .setErr) ∨
    (t.pc = 1 ∧ t.body = handlerShape m ∧ t.body[t.pc]? = some (.upd 0 m)) ∨
    (t.pc = 2 ∧ t.body[t.pc]? = some .rel) := by
  have hpc : t.pc = 0 ∨ t.pc = 1 ∨ t.pc = 2 := by have := ok.pc_lt; omega
  rcases ok.shape with e | e | e | e <;> rcases hpc with p | p | p <;>
    simp [e, p, snapshotShape, clearShape, errorShape, handlerShape]

theorem ThOK.advance {m} {s s' : Sys} {i} {t : Th} (ok : ThOK m s i t) {hd : Hold}
    (hhd : hd = if t.pc = 2 then .none else if t.body = snapshotShape then .r else .w)
    (hW : hd = .w ↔ s'.writer = some i) (hR : hd = .r ↔ i ∈ s'.readers) :
    ThOK m s' i { t.next with hold := hd } := by
  by_cases p : t.pc = 2
  · rw [if_pos p] at hhd
    rw [next_pc2 ok.body_len p]
    exact {
      shape := ok.shape
      pc_lt := Nat.zero_lt_succ 2
      idle := fun _ => hhd
      busyR := fun _ h => absurd h (Nat.not_succ_le_zero 0)
      busyW := fun _ h => absurd h (Nat.not_succ_le_zero 0)
      micro0 := fun _ => rfl
      microLt := fun _ _ => .inr rfl
      holdW := hW
      holdR := hR }
  · rw [if_neg p] at hhd
    have := ok.pc_lt
    rw [next_lt2 ok.body_len (by omega)]
    exact {
      shape := ok.shape
      pc_lt := show t.pc + 1 < 3 by omega
      idle := fun h => absurd h (Nat.succ_ne_zero _)
      busyR := fun e _ => hhd.trans (if_pos e)
      busyW := fun e _ => hhd.trans (if_neg e)
      micro0 := fun _ => rfl
      microLt := fun _ _ => .inr rfl
      holdW := hW
      holdR := hR }

theorem ThOK.next_keep {m s i t} (ok : ThOK m s i t) (hpc : t.pc = 1) : ThOK m s i t.next := by
  refine ok.advance (hd := t.next.hold) ?_ (next_hold t ▸ ok.holdW) (next_hold t ▸ ok.holdR)
  by_cases e : t.body = snapshotShape
  · simp [next_hold, hpc, e, ok.busyR e (by omega)]
  · simp [next_hold, hpc, e, ok.busyW e (by omega)]

theorem SysInv.is_tracer {m tr s i t} (h : SysInv m tr s) (hi : s.ths[i]? = some t)
    (hb : t.body = handlerShape m) : i = tr :=
  Decidable.byContradiction fun x => h.others i t hi x hb

theorem tracer_idle {m tr s T} (h : SysInv m tr s) (hT : s.ths[tr]? = some T)
    (hw : s.writer ≠ some tr) : T.pc = 0 := by
  obtain ⟨T', hT', hTb, _⟩ := h.tracer
  rw [hT] at hT'; cases hT'
  have ok := h.ths tr T hT
  by_cases h0 : T.pc = 0
  · exact h0
  · exact absurd (ok.holdW.mp (ok.busyW (hTb ▸ (snapshotShape_ne_handlerShape m).symm) (by omega))) hw

theorem mem_whole_of_no_writer {m tr s} (h : SysInv m tr s) (hw : s.writer = none) :
    Whole m s.mem := by
  obtain ⟨T, hT, _, hm⟩ := h.tracer
  exact hm.whole (tracer_idle h hT (by simp [hw]))

/-- acquiring and releasing leave the memory alone -/
theorem MemOK.next {m T mem} (h : MemOK m T mem) (hb : T.body.length = 3) (hpc : T.pc ≠ 1)
    (hd : Hold) : MemOK m { T.next with hold := hd } mem := by
  obtain ⟨c, hc, ⟨p, e⟩ | ⟨p, _⟩ | ⟨p, e⟩⟩ := h
  · rw [next_lt2 hb (by omega), p]
    exact .of_pc1 c hc rfl (by simpa using e)
  · exact absurd p hpc
  · rw [next_pc2 hb p]
    refine .of_pc0 c (Nat.le_succ_of_le hc) rfl ?_
    rw [e]
    congr 1
    show T.iter - c + 1 = T.iter + 1 - c
    omega

/-- what a step of thread `i` from `t` to `t'` owes for `SysInv` to hold of `s'`; every instruction goes through this -/
theorem inv_frame {m tr : Nat} {s s' : Sys} {i : Nat} {t t' : Th} (h : SysInv m tr s)
    (hi : s.ths[i]? = some t) (hths : s'.ths = s.ths.set i t') (hbody : t'.body = t.body)
    (hok : ThOK m s' i t')
    (hW : ∀ j, j ≠ i → (s.writer = some j ↔ s'.writer = some j))
    (hR : ∀ j, j ≠ i → (j ∈ s.readers ↔ j ∈ s'.readers))
    (hmemOther : i ≠ tr → ∀ T, s.ths[tr]? = some T → MemOK m T s.mem → MemOK m T s'.mem)
    (hmemTracer : t.body = handlerShape m → MemOK m t s.mem → MemOK m t' s'.mem)
    (hexcl : ∀ j, s'.writer = some j → s'.readers = []) (hnodup : s'.readers.Nodup)
    (hobs : ∀ o ∈ s'.obs, Whole m o) : SysInv m tr s' := by
  have hlen : i < s.ths.length := (List.getElem?_eq_some_iff.mp hi).1
  have hget : ∀ j tj, s'.ths[j]? = some tj → j = i ∧ tj = t' ∨ j ≠ i ∧ s.ths[j]? = some tj := by
    intro j tj hj
    rw [hths, List.getElem?_set, if_pos hlen] at hj
    split at hj
    · next e => exact .inl ⟨e.symm, (Option.some.inj hj).symm⟩
    · next e => exact .inr ⟨Ne.symm e, hj⟩
  refine { ths := ?_, tracer := ?_, others := ?_, excl := hexcl, nodup := hnodup, obs := hobs }
  · intro j tj hj
    rcases hget j tj hj with ⟨rfl, rfl⟩ | ⟨hji, hj⟩
    · exact hok
    · have o := h.ths j tj hj
      exact { o with holdW := o.holdW.trans (hW j hji), holdR := o.holdR.trans (hR j hji) }
  · obtain ⟨T, hT, hTb, hTm⟩ := h.tracer
    by_cases hitr : i = tr
    · subst hitr
      rw [hi] at hT
      cases hT
      exact ⟨t', by rw [hths, List.getElem?_set_self hlen], by rw [hbody, hTb], hmemTracer hTb hTm⟩
    · exact ⟨T, by rw [hths, List.getElem?_set_ne hitr, hT], hTb, hmemOther hitr T hT hTm⟩
  · intro j tj hj hjtr
    rcases hget j tj hj with ⟨rfl, rfl⟩ | ⟨hji, hj⟩
    · rw [hbody]
      exact h.others j t hi hjtr
    · exact h.others j tj hj hjtr

section
variable {m tr : Nat} {s : Sys} {i : Nat} {t : Th} (h : SysInv m tr s) (hi : s.ths[i]? = some t)
include h hi

/-- acquire or release: only the lock fields and the thread's `hold` change -/
theorem inv_lock (hpc : t.pc ≠ 1) {w' : Option Nat} {r' : List Nat} {hd : Hold}
    (hhd : hd = if t.pc = 2 then .none else if t.body = snapshotShape then .r else .w)
    (hdW : hd = .w ↔ w' = some i) (hdR : hd = .r ↔ i ∈ r')
    (hW : ∀ j, j ≠ i → (s.writer = some j ↔ w' = some j))
    (hR : ∀ j, j ≠ i → (j ∈ s.readers ↔ j ∈ r'))
    (hexcl : ∀ j, w' = some j → r' = []) (hnodup : r'.Nodup) :
    SysInv m tr { s with writer := w', readers := r',
                         ths := s.ths.set i { t.next with hold := hd } } := by
  have ok := h.ths i t hi
  exact inv_frame h hi rfl (next_body t) (ok.advance hhd hdW hdR) hW hR (fun _ _ _ x => x)
    (fun _ hm => hm.next ok.body_len hpc _) hexcl hnodup h.obs

theorem inv_acqR (hpc : t.pc = 0) (hb : t.body = snapshotShape) (hw : s.writer = none) :
    SysInv m tr { s with readers := i :: s.readers,
                         ths := s.ths.set i { t.next with hold := .r } } := by
  have ok := h.ths i t hi
  have hni : i ∉ s.readers := by rw [← ok.holdR, ok.idle hpc]; simp
  exact inv_lock h hi (hpc := by omega) (hhd := by simp [hpc, hb])
    (hdW := by simp [hw]) (hdR := by simp)
    (hW := fun _ _ => Iff.rfl) (hR := fun j hj => by simp [hj])
    (hexcl := fun j hj => by simp [hw] at hj) (hnodup := List.nodup_cons.mpr ⟨hni, h.nodup⟩)

theorem inv_acqW (hpc : t.pc = 0) (hb : t.body ≠ snapshotShape) (hw : s.writer = none)
    (hr : s.readers = []) :
    SysInv m tr { s with writer := some i, ths := s.ths.set i { t.next with hold := .w } } :=
  inv_lock h hi (hpc := by omega) (hhd := by simp [hpc, hb])
    (hdW := by simp) (hdR := by simp [hr])
    (hW := fun j hj => by simp [hw, Ne.symm hj]) (hR := fun _ _ => Iff.rfl)
    (hexcl := fun _ _ => hr) (hnodup := h.nodup)

theorem inv_relR (hpc : t.pc = 2) (hh : t.hold = .r) :
    SysInv m tr { s with readers := s.readers.erase i,
                         ths := s.ths.set i { t.next with hold := .none } } := by
  have hw : s.writer ≠ some i := fun x => by
    have := (h.ths i t hi).holdW.mpr x
    rw [hh] at this
    cases this
  exact inv_lock h hi (hpc := by omega) (hhd := by simp [hpc])
    (hdW := by simpa using hw) (hdR := by simpa using h.nodup.not_mem_erase)
    (hW := fun _ _ => Iff.rfl) (hR := fun j hj => (List.mem_erase_of_ne hj).symm)
    (hexcl := fun j hj => by simp [h.excl j hj]) (hnodup := h.nodup.erase i)

theorem inv_relW (hpc : t.pc = 2) (hh : t.hold = .w) :
    SysInv m tr { s with writer := none, ths := s.ths.set i { t.next with hold := .none } } := by
  have hwr : s.writer = some i := (h.ths i t hi).holdW.mp hh
  exact inv_lock h hi (hpc := by omega) (hhd := by simp [hpc])
    (hdW := by simp) (hdR := by simp [h.excl i hwr])
    (hW := fun j hj => by simp [hwr, Ne.symm hj]) (hR := fun _ _ => Iff.rfl)
    (hexcl := fun j hj => by cases hj) (hnodup := h.nodup)

theorem inv_mid {t'} (hbody : t'.body = t.body) (hok : ThOK m s i t') {mem' : Mem}
    {obs' : List Mem}
    (hmemOther : i ≠ tr → ∀ T, s.ths[tr]? = some T → MemOK m T s.mem → MemOK m T mem')
    (hmemTracer : t.body = handlerShape m → MemOK m t s.mem → MemOK m t' mem')
    (hobs : ∀ o ∈ obs', Whole m o) :
    SysInv m tr { s with mem := mem', obs := obs', ths := s.ths.set i t' } :=
  -- `hok` speaks of `s`; its fields fit the updated system as they are, the lock fields being
  -- the same terms: `{ hok with }` re-types them
  inv_frame h hi rfl hbody { hok with } (fun _ _ => Iff.rfl) (fun _ _ => Iff.rfl) hmemOther
    hmemTracer h.excl h.nodup hobs

theorem inv_copyOut (hpc : t.pc = 1) (hb : t.body = snapshotShape) :
    SysInv m tr { s with obs := s.obs ++ [s.mem], ths := s.ths.set i t.next } := by
  have ok := h.ths i t hi
  have hmemb : i ∈ s.readers := ok.holdR.mp (ok.busyR hb (by omega))
  have hw : s.writer = none := by
    cases hwr : s.writer with
    | none => rfl
    | some j => rw [h.excl j hwr] at hmemb; cases hmemb
  refine inv_mid h hi (next_body t) (ok.next_keep hpc) (fun _ _ _ x => x)
    (fun e => absurd (hb.symm.trans e) (snapshotShape_ne_handlerShape m)) ?_
  intro o ho
  rcases List.mem_append.mp ho with ho | ho
  · exact h.obs o ho
  · cases List.mem_singleton.mp ho; exact mem_whole_of_no_writer h hw

theorem inv_store (hpc : t.pc = 1) (hb : t.body = clearShape) :
    SysInv m tr { s with mem := [], ths := s.ths.set i t.next } := by
  have ok := h.ths i t hi
  have hwr : s.writer = some i :=
    ok.holdW.mp (ok.busyW (hb ▸ clearShape_ne_snapshotShape) (by omega))
  refine inv_mid h hi (next_body t) (ok.next_keep hpc) ?_
    (fun e => absurd (hb.symm.trans e) (clearShape_ne_handlerShape m)) h.obs
  intro hne T hT _
  have : T.pc = 0 := tracer_idle h hT fun x => hne (Option.some.inj (hwr.symm.trans x))
  exact .of_pc0 T.iter (Nat.le_refl _) this (by simp [wholeRounds])

theorem inv_setErr (hpc : t.pc = 1) (hb : t.body = errorShape) :
    SysInv m tr { s with ths := s.ths.set i t.next } :=
  inv_mid h hi (next_body t) ((h.ths i t hi).next_keep hpc) (fun _ _ _ x => x)
    (fun e => absurd (hb.symm.trans e) (errorShape_ne_handlerShape m)) h.obs

theorem inv_upd_step (hpc : t.pc = 1) (hb : t.body = handlerShape m) (hlt : t.micro + 1 < m) :
    SysInv m tr { s with mem := s.mem ++ [(t.iter, t.micro)],
                         ths := s.ths.set i { t with micro := t.micro + 1 } } := by
  have ok := h.ths i t hi
  refine inv_mid (t' := { t with micro := t.micro + 1 }) h hi rfl
    { ok with micro0 := fun x => absurd hpc x, microLt := fun _ _ => Or.inl hlt }
    (fun x => absurd (h.is_tracer hi hb) x) ?_ h.obs
  intro _ hm
  obtain ⟨c, hc, e⟩ := hm.mid hpc
  refine .of_pc1 c hc hpc ?_
  simp only [e, List.append_assoc]
  rw [take_roundSteps_succ m t.iter t.micro (by omega)]

theorem inv_upd_last (hpc : t.pc = 1) (hb : t.body = handlerShape m) (hlast : t.micro + 1 = m) :
    SysInv m tr { s with mem := s.mem ++ [(t.iter, t.micro)], ths := s.ths.set i t.next } := by
  have ok := h.ths i t hi
  refine inv_mid h hi (next_body t) (ok.next_keep hpc) (fun x => absurd (h.is_tracer hi hb) x) ?_ h.obs
  intro _ hm
  obtain ⟨c, hc, e⟩ := hm.mid hpc
  rw [next_lt2 ok.body_len (by omega), hpc]
  refine .of_pc2 c hc rfl ?_
  simp only [e, List.append_assoc, wholeRounds]
  rw [← take_roundSteps_succ m t.iter t.micro (by omega), hlast, take_roundSteps_all]
  congr 2
  omega

/-- `m = 0`: the round has no micro-step -/
theorem inv_upd_none (hpc : t.pc = 1) (hb : t.body = handlerShape m) (hge : ¬ t.micro < m) :
    SysInv m tr { s with ths := s.ths.set i t.next } := by
  have ok := h.ths i t hi
  have hm0 : t.micro = 0 := by rcases ok.microLt hpc hb with x | x <;> omega
  have hmz : m = 0 := by omega
  refine inv_mid h hi (next_body t) (ok.next_keep hpc) (fun x => absurd (h.is_tracer hi hb) x) ?_ h.obs
  intro _ hm
  obtain ⟨c, hc, e⟩ := hm.mid hpc
  rw [next_lt2 ok.body_len (by omega), hpc]
  refine .of_pc2 c hc rfl ?_
  subst hmz
  simp [e, hm0, wholeRounds, roundSteps]

end

theorem step_inv {m tr : Nat} {s s' : Sys} (h : SysInv m tr s) (i : Nat) (hs : step s i = some s') :
    SysInv m tr s' := by
  unfold step at hs
  cases hi : s.ths[i]? with
  | none => simp [hi] at hs
  | some t =>
    simp only [hi] at hs
    have ok := h.ths i t hi
    rcases instr_cases ok with ⟨hpc, hb, hin⟩ | ⟨hpc, hb, hin⟩ | ⟨hpc, hb, hin⟩ |
      ⟨hpc, hb, hin⟩ | ⟨hpc, hb, hin⟩ | ⟨hpc, hb, hin⟩ | ⟨hpc, hin⟩
    · simp only [hin] at hs
      split at hs
      · next hw =>
        cases hs
        exact inv_acqR h hi hpc hb hw
      · cases hs
    · simp only [hin] at hs
      split at hs
      · next hw =>
        cases hs
        exact inv_acqW h hi hpc hb hw.1 hw.2
      · cases hs
    · simp only [hin] at hs
      cases hs
      exact inv_copyOut h hi hpc hb
    · simp only [hin] at hs
      cases hs
      exact inv_store h hi hpc hb
    · simp only [hin] at hs
      cases hs
      exact inv_setErr h hi hpc hb
    · simp only [hin, Nat.zero_add] at hs
      split at hs
      · split at hs
        · next hlt =>
          cases hs
          exact inv_upd_step h hi hpc hb hlt
        · next hlt hge =>
          cases hs
          exact inv_upd_last h hi hpc hb (by omega)
      · next hge =>
        cases hs
        exact inv_upd_none h hi hpc hb hge
    · by_cases hb : t.body = snapshotShape
      · have hh := ok.busyR hb (by omega)
        simp only [hin, hh] at hs
        cases hs
        exact inv_relR h hi hpc hh
      · have hh := ok.busyW hb (by omega)
        simp only [hin, hh] at hs
        cases hs
        exact inv_relW h hi hpc hh

theorem inv_runSched {m tr : Nat} (sched : List Nat) {s : Sys} (h : SysInv m tr s) :
    SysInv m tr (runSched s sched) := by
  induction sched generalizing s with
  | nil => exact h
  | cons i is ih =>
    rw [runSched]
    cases hs : step s i with
    | none => exact ih h
    | some s' => exact ih (step_inv h i hs)

end TV.Conc
