import TrippyVerif.Model.Stack
import TrippyVerif.Lemmas.Strategy
import TrippyVerif.Lemmas.Channel
/-!
The send step of the stack (strategy over the real channel) is the send step of the abstract state
machine for the outcomes the channel produced (`finishSend_ok`, `tcpLoopS_ok`, `sendRequestS_ok`);
`finishSend` and `recvOutcome` panic only on a panic of the channel; `Tracer::run` is `connect`, then the loop
(`run_eq`).
-/
namespace TV.Stack
open TV.Strat

/-- how `Strategy::do_send` reads the result of `Channel::send_probe` -/
def outcomeOf : Chan.SendOut → SendOutcome
  | .ok _ => .ok
  | .err .probeFailed _ => .probeFailed
  | .err .addrInUse _ => .addrInUse
  | .err _ _ => .fatal
  | .panic => .fatal

theorem finishSend_ok {ch ch' : Chan.Chan} {s s' : TS} {p : Probe} {log lg : List (Probe × SendOutcome)}
    {calls calls' : List (List Wire.SockOp)} {out : Chan.SendOut}
    (h : finishSend ch s p log calls out = .ok (ch', s', lg, calls')) :
    ch' = ch ∧ lg = log ++ [(p, outcomeOf out)] ∧ doSend s (outcomeOf out) = .ok (s', none) := by
  cases out with
  | panic => cases h
  | ok ops =>
    cases h
    exact ⟨rfl, rfl, rfl⟩
  | err e ops =>
    -- only `ProbeFailed` is taken by `do_send`; every other error is returned
    cases e with
    | probeFailed =>
      obtain ⟨s1, hf, h⟩ := R.bind_eq_ok.mp h
      cases h
      exact ⟨rfl, rfl, by simp [doSend, outcomeOf, hf]⟩
    | _ => cases h

theorem tcpLoopS_ok (c : Cfg) : ∀ (injs : List Chan.Inject) (ch : Chan.Chan) (s : TS) (p : Probe)
    (log : List (Probe × SendOutcome)) (calls : List (List Wire.SockOp)) {ch' : Chan.Chan} {s' : TS}
    {lg : List (Probe × SendOutcome)} {calls' : List (List Wire.SockOp)},
    tcpLoopS c ch s p log calls injs = .ok (ch', s', lg, calls') →
    Chan.SameChan ch ch' ∧ ∃ rest, lg = log ++ rest ∧ tcpLoop c s p log (rest.map (·.2)) = .ok (s', lg) := by
  intro injs
  induction injs with
  | nil =>
    intro ch s p log calls ch' s' lg calls' h
    obtain ⟨rfl, rfl, hd⟩ := finishSend_ok h
    exact ⟨Chan.send_same ch p none, _, rfl, tcpLoop_stop hd⟩
  | cons inj rest ih =>
    intro ch s p log calls ch' s' lg calls' h
    simp only [tcpLoopS] at h
    split at h
    · -- `AddressInUse`: the probe is re-issued, if the round has room
      obtain ⟨cap, hcap, h⟩ := R.bind_eq_ok.mp h
      cases cap with
      | false => cases h
      | true =>
        obtain ⟨⟨s1, p'⟩, hre, h⟩ := R.bind_eq_ok.mp h
        obtain ⟨hsc, rest', rfl, ht⟩ := ih _ s1 p' _ _ h
        refine ⟨(Chan.send_same ch p inj).trans hsc, (p, .addrInUse) :: rest', by simp, ?_⟩
        simp only [List.map_cons, tcpLoop, doSend, R.bind_ok, hcap, if_true, hre]
        exact ht
    · obtain ⟨rfl, rfl, hd⟩ := finishSend_ok h
      exact ⟨Chan.send_same ch p inj, _, rfl, tcpLoop_stop hd⟩

theorem sendRequestS_ok {c : Cfg} {ch ch' : Chan.Chan} {s s' : TS} {injs : List Chan.Inject}
    {lg : List (Probe × SendOutcome)} {calls : List (List Wire.SockOp)}
    (h : sendRequestS c ch s injs = .ok (ch', s', lg, calls)) :
    sendRequest c s (lg.map (·.2)) = .ok (s', lg) ∧ Chan.SameChan ch ch' := by
  obtain ⟨g, hg, h⟩ := R.bind_eq_ok.mp h
  simp only [sendRequest, hg, R.bind_ok]
  cases g with
  | false =>
    cases h
    exact ⟨rfl, .refl ch⟩
  | true =>
    simp only [if_true, doSendsS, doSends] at h ⊢
    cases hp : c.proto <;> simp only [hp] at h ⊢
    case tcp =>
      obtain ⟨cap, hcap, h⟩ := R.bind_eq_ok.mp h
      cases cap with
      | false => cases h
      | true =>
        obtain ⟨⟨s1, p⟩, hn, h⟩ := R.bind_eq_ok.mp h
        obtain ⟨hsc, rest, rfl, ht⟩ := tcpLoopS_ok c injs ch s1 p [] [] h
        simp only [hcap, R.bind_ok, if_true, hn]
        exact ⟨ht, hsc⟩
    all_goals
      obtain ⟨⟨s1, p⟩, hn, h⟩ := R.bind_eq_ok.mp h
      obtain ⟨rfl, rfl, hd⟩ := finishSend_ok h
      simp only [hn, R.bind_ok, List.nil_append, List.map_cons, List.map_nil, headOutcome, hd]
      exact ⟨trivial, Chan.send_same ch p _⟩

theorem finishSend_no_panic {c : Cfg} {ch : Chan.Chan} {s : TS} {p : Probe} (ha : Alloc c s p)
    (log : List (Probe × SendOutcome)) (calls : List (List Wire.SockOp)) {out : Chan.SendOut}
    (ho : out ≠ .panic) : finishSend ch s p log calls out ≠ .panic := by
  cases out with
  | panic => exact absurd rfl ho
  | ok ops => simp [finishSend]
  | err e ops => cases e <;> simp [finishSend, failProbe_spec ha]

theorem recvOutcome_no_panic {now : Nat} {x : R (Option Wire.WResp)} (h : x ≠ .panic) :
    recvOutcome now x ≠ .panic := by
  cases x with
  | panic => exact absurd rfl h
  | err e => simp [recvOutcome]
  | ok w => cases w <;> simp [recvOutcome]

theorem recvOutcome_ok {now : Nat} {x : R (Option Wire.WResp)} {ro : RecvOutcome}
    (h : recvOutcome now x = .ok ro) : ∃ w, x = .ok w := by
  cases x with
  | ok w => exact ⟨w, rfl⟩
  | err e => cases h
  | panic => cases h

theorem run_eq {F : Type} [Agg.Num F] (k : TracerCfg) (t0 : Nat) (envs : List Env) :
    (∃ r, r ≠ .ok () ∧ r = (Chan.connect k.conn t0 >>= fun _ => .ok ()) ∧
      run (F := F) k t0 envs = { state := none, connOps := [], outs := [], ended := some r }) ∨
    ∃ st0 ops, Chan.connect k.conn t0 = .ok (st0.chan, ops) ∧ st0.ts = init k.strat t0 ∧
      st0.agg = Agg.State.new k.agg ∧
      run (F := F) k t0 envs =
        { state := some (loop k.strat st0 envs).1, connOps := ops, outs := (loop k.strat st0 envs).2.1,
          ended := (loop k.strat st0 envs).2.2 } := by
  unfold run
  cases Chan.connect k.conn t0 with
  | err e => exact .inl ⟨.err e, by simp, rfl, rfl⟩
  | panic => exact .inl ⟨.panic, by simp, rfl, rfl⟩
  | ok v => exact .inr ⟨{ chan := v.1, ts := init k.strat t0, agg := Agg.State.new k.agg }, v.2, rfl, rfl, rfl, rfl⟩

end TV.Stack
