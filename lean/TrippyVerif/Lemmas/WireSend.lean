import TrippyVerif.Lemmas.Wire
import TrippyVerif.Lemmas.R
import TrippyVerif.Lemmas.Checksum
import TrippyVerif.Spec.Decode
import TrippyVerif.Spec.Quote
/-!
The send side (C11, and the wire half of C02): `dispatch` in closed form per cell, the octets it produces, what an
independent decoder reads back from them, and the shape of the datagram then on the wire (`IsDatagram4` / `6`).
-/
namespace TV.Wire
open TV.Rfc1071 TV.Decode TV.Quote

theorem u16_hi_lo {n : Nat} (h : n < 65536) : u16 (hi n) (lo n) = n := hi_lo h

/-- the octets `make_ipv4_packet` produces -/
def ip4Bytes (c : ChanCfg) (proto : UInt8) (ttl ident : Nat) (payload : Buf) : Buf :=
  [0x45, c.tos, hi (20 + payload.length), lo (20 + payload.length), hi ident, lo ident,
   hi Consts.net4_DONT_FRAGMENT, lo Consts.net4_DONT_FRAGMENT, UInt8.ofNat ttl, proto, 0, 0] ++
    c.src ++ c.dst ++ payload

theorem makeIpv4_eq {c : ChanCfg} {proto : UInt8} {ttl ident : Nat} {payload : Buf}
    (hl : 20 + payload.length ≤ 1024) :
    makeIpv4 c proto ttl ident payload = .ok (ip4Bytes c proto ttl ident payload) := by
  have h2 : ¬ (1024 < 20 + payload.length) := by omega
  simp [makeIpv4, (sizes c).packet, h2, ip4Bytes]

theorem ip4Bytes_length (c : ChanCfg) (hs : c.src.length = 4) (hd : c.dst.length = 4)
    (proto : UInt8) (ttl ident : Nat) (payload : Buf) :
    (ip4Bytes c proto ttl ident payload).length = 20 + payload.length := by
  simp only [ip4Bytes, List.length_append, List.length_cons, List.length_nil, hs, hd]

theorem decodeIPv4_ip4Bytes (c : ChanCfg) (hs : c.src.length = 4) (hd : c.dst.length = 4)
    {proto : UInt8} {ttl ident : Nat} {payload : Buf}
    (hl : 20 + payload.length < 65536) (ht : ttl ≤ 255) (hi' : ident < 65536) :
    decodeIPv4 (ip4Bytes c proto ttl ident payload) = some
      ({ version := 4, ihl := 5, tos := c.tos.toNat, totalLength := 20 + payload.length,
         ident := ident, reserved := false, df := true, mf := false, fragOffset := 0, ttl := ttl,
         proto := proto.toNat, headerChecksum := 0, src := c.src, dst := c.dst, options := [] },
       payload) := by
  obtain ⟨s0, s1, s2, s3, hs⟩ := len4 hs
  obtain ⟨d0, d1, d2, d3, hd⟩ := len4 hd
  have e3 : (UInt8.ofNat ttl).toNat = ttl := UInt8.toNat_ofNat_of_lt' (Nat.lt_succ_of_le ht)
  -- `delta`: the match on twenty octets reduces on the spot; its equation lemmas are dear to make
  delta decodeIPv4
  simp only [ip4Bytes, hs, hd, List.cons_append, List.nil_append, u16_hi_lo hl,
    u16_hi_lo hi', e3]
  simp [hi, lo, Consts.net4_DONT_FRAGMENT, u16]

def pseudoHdr (c : ChanCfg) (proto : UInt8) (len : Nat) : Buf :=
  if c.v6 then pseudo6 c.src c.dst proto len else pseudo4 c.src c.dst proto len

theorem pseudoHdr_v4 {c : ChanCfg} (hv : c.v6 = false) (proto : UInt8) (len : Nat) :
    pseudoHdr c proto len = pseudo4 c.src c.dst proto len := by
  simp [pseudoHdr, hv]

theorem pseudoHdr_v6 {c : ChanCfg} (hv : c.v6 = true) (proto : UInt8) (len : Nat) :
    pseudoHdr c proto len = pseudo6 c.src c.dst proto len := by
  simp [pseudoHdr, hv]

theorem pseudoHdr_even (c : ChanCfg) (hc : c.AddrOk) (proto : UInt8) (len : Nat) :
    (pseudoHdr c proto len).length % 2 = 0 := by
  cases hv : c.v6
  · rw [pseudoHdr_v4 hv]
    exact Cksum.pseudo4_length_even _ _ (addr4 c hc hv).1 (addr4 c hc hv).2
  · rw [pseudoHdr_v6 hv]
    exact Cksum.pseudo6_length_even _ _ (addr6 c hc hv).1 (addr6 c hc hv).2

/-- the UDP packet `make_udp_packet` builds, given its checksum -/
def udpPkt (sp dp ck : Nat) (payload : Buf) : Buf :=
  hi sp :: lo sp :: hi dp :: lo dp :: hi (8 + payload.length) :: lo (8 + payload.length) ::
    hi ck :: lo ck :: payload

/-- RFC 8200 §8.1 / RFC 768: 0xFFFF, the other zero of one's complement arithmetic, in place of a computed
checksum of 0x0000 keeps the datagram valid -/
theorem verifies_allones (pre d : Buf) (iw : Nat) (hpre : pre.length % 2 = 0)
    (hf : 2 * iw + 1 < d.length) (h : verifies (pre ++ putField iw 0 d)) :
    verifies (pre ++ putField iw 0xFFFF d) := by
  unfold verifies at *
  rw [Cksum.wordSum_append_even _ _ hpre, Cksum.wordSum_putField _ (by omega) d iw hf] at *
  -- both sums are nonzero and congruent modulo 65535
  have h0 := Cksum.fold16_spec (wordSum pre + (wordSum (zeroField iw d) + 0))
  have h1 := Cksum.fold16_spec (wordSum pre + (wordSum (zeroField iw d) + 65535))
  omega

/-- over IPv6 `make_udp_packet` returns `if x = 0 then 0xFFFF else x` for the computed `x` -/
theorem makeUdp_nonzero6 {c : ChanCfg} (hv : c.v6 = true) {sp dp : Nat} {payload : Buf}
    {ck : Nat} {pkt : Buf} (h : makeUdp c sp dp payload = .ok (ck, pkt)) : ck ≠ 0 := by
  simp only [makeUdp, hv, if_true] at h
  split at h
  · cases h
  · obtain ⟨x, -, h2⟩ := R.bind_eq_ok.1 h
    injection h2 with h2
    injection h2 with h2 _
    rw [← h2]
    split <;> omega

theorem makeUdp_spec (c : ChanCfg) (hc : c.AddrOk) (sp dp : Nat) (payload : Buf)
    (h : 8 + payload.length ≤ maxUdpBuf c) :
    ∃ ck, ck ≤ 0xFFFF ∧ makeUdp c sp dp payload = .ok (ck, udpPkt sp dp ck payload) ∧
      verifies (pseudoHdr c 17 (8 + payload.length) ++ udpPkt sp dp ck payload) := by
  have hb : maxUdpBuf c ≤ 1004 := by
    rw [(sizes c).udpBuf, (sizes c).udpPayload]
    split <;> omega
  unfold makeUdp
  simp only [l4Hdr]
  rw [if_neg (by omega)]
  generalize hd : hi sp :: lo sp :: hi dp :: lo dp :: hi (8 + payload.length) ::
    lo (8 + payload.length) :: 0 :: 0 :: payload = d
  have hdl : d.length = 8 + payload.length := by
    rw [← hd]
    simp only [List.length_cons]
    omega
  have hlen : d.length ≤ 65535 := by omega
  have hf : 2 * 3 + 1 < d.length := by omega
  have hput : ∀ ck, putField 3 ck d = udpPkt sp dp ck payload := by
    intro ck
    rw [← hd]
    simp [putField, udpPkt, hi, lo]
  cases hv : c.v6
  · have hc := addr4 c hc hv
    -- `udp_ipv4_checksum` is `ipv4Checksum` with the checksum field at word 3 and protocol 17
    obtain ⟨ck, h1, h2, h3⟩ := Cksum.verifies_of_eq (r := Cksum.udp_ipv4_checksum d c.src c.dst)
      (Cksum.ipv4Checksum_eq 3 17 hc.1 hc.2 hlen) (Cksum.pseudo4_length_even _ _ hc.1 hc.2) hf
    refine ⟨ck, h2, ?_, ?_⟩
    · simp only [Bool.false_eq_true, if_false, h1]
      rfl
    · rw [pseudoHdr_v4 hv, ← hput, ← hdl]
      exact h3
  · have hc := addr6 c hc hv
    obtain ⟨ck, h1, h2, h3⟩ := Cksum.verifies_of_eq (r := Cksum.udp_ipv6_checksum d c.src c.dst)
      (Cksum.ipv6Checksum_eq 3 17 hc.1 hc.2 hlen) (Cksum.pseudo6_length_even _ _ hc.1 hc.2) hf
    refine ⟨if ck = 0 then 0xFFFF else ck, by split <;> omega, ?_, ?_⟩
    · simp only [if_true, h1]
      rfl
    · rw [pseudoHdr_v6 hv, ← hput, ← hdl]
      split
      · rename_i h0
        rw [h0] at h3
        exact verifies_allones _ d 3 (Cksum.pseudo6_length_even _ _ hc.1 hc.2) hf h3
      · exact h3

theorem calcUdpChecksum_ok (c : ChanCfg) (hc : c.AddrOk) (sp dp plen : Nat) :
    ∃ ck, calcUdpChecksum c sp dp plen = .ok ck := by
  have hbuf := (sizes c).udpBuf
  obtain ⟨ck, -, h, -⟩ := makeUdp_spec c hc sp dp
    (List.replicate (min plen (maxUdpPayload c)) c.pattern)
    (by simp only [List.length_replicate]; omega)
  exact ⟨ck, by simp [calcUdpChecksum, h]⟩

theorem calcUdpChecksum_eq {c : ChanCfg} {sp dp n ck : Nat} {pkt : Buf} (hn : n ≤ maxUdpPayload c)
    (hm : makeUdp c sp dp (List.replicate n c.pattern) = .ok (ck, pkt)) :
    calcUdpChecksum c sp dp n = .ok ck := by
  simp [calcUdpChecksum, Nat.min_eq_left hn, hm]

/-- the Echo Request `make_echo_request_icmp_packet` builds, given its checksum -/
def echoPkt (c : ChanCfg) (ck ident seq n : Nat) : Buf :=
  (if c.v6 then 128 else 8) :: 0 :: hi ck :: lo ck :: hi ident :: lo ident :: hi seq :: lo seq ::
    List.replicate n c.pattern

theorem makeEchoRequest_spec (c : ChanCfg) (hc : c.AddrOk) (ident seq n : Nat)
    (h : n ≤ maxIcmpPayload c) :
    ∃ ck, ck ≤ 0xFFFF ∧ makeEchoRequest c ident seq n = .ok (echoPkt c ck ident seq n) ∧
      verifies ((if c.v6 then pseudoHdr c 58 (8 + n) else []) ++ echoPkt c ck ident seq n) := by
  have hbuf := (sizes c).icmpBuf
  have hm : maxIcmpBuf c ≤ 1004 := by
    rw [hbuf, (sizes c).icmpPayload]
    split <;> omega
  unfold makeEchoRequest
  simp only [l4Hdr]
  rw [if_neg (by omega), if_neg (by omega)]
  unfold echoPkt
  -- what follows the checksum is the same in both families; the checksum is word 1
  generalize hbody : hi ident :: lo ident :: hi seq :: lo seq :: List.replicate n c.pattern = body
  have hbl : body.length = 4 + n := by
    rw [← hbody]
    simp only [List.length_cons, List.length_replicate]
    omega
  have hput : ∀ (ty : UInt8) (ck : Nat),
      putField 1 ck (ty :: 0 :: 0 :: 0 :: body) = ty :: 0 :: hi ck :: lo ck :: body := fun ty ck =>
    (Cksum.putField_cons2_succ 0 ck _ _ _).trans (by rw [Cksum.putField_cons2_zero]; rfl)
  have hdl : ∀ ty : UInt8, (ty :: 0 :: 0 :: 0 :: body).length = 8 + n := by
    intro ty
    simp only [List.length_cons, hbl]
    omega
  cases hv : c.v6
  · obtain ⟨ck, h1, h2, h3⟩ := Cksum.verifies_of_eq (pre := []) (iw := 1)
      (r := Cksum.icmp_ipv4_checksum (8 :: 0 :: 0 :: 0 :: body))
      (by rw [List.nil_append]; exact Cksum.checksum_eq 1 (List.cons_ne_nil _ _) (by rw [hdl]; omega))
      rfl (by rw [hdl]; omega)
    refine ⟨ck, h2, ?_, ?_⟩
    · simp only [Bool.false_eq_true, if_false, h1]
      rfl
    · simp only [Bool.false_eq_true, if_false]
      rw [← hput]
      exact h3
  · have hc := addr6 c hc hv
    obtain ⟨ck, h1, h2, h3⟩ := Cksum.verifies_of_eq
      (r := Cksum.icmp_ipv6_checksum (128 :: 0 :: 0 :: 0 :: body) c.src c.dst)
      (Cksum.ipv6Checksum_eq 1 58 hc.1 hc.2 (by rw [hdl]; omega))
      (Cksum.pseudo6_length_even _ _ hc.1 hc.2) (by rw [hdl]; omega)
    refine ⟨ck, h2, ?_, ?_⟩
    · simp only [if_true, h1]
      rfl
    · simp only [if_true]
      rw [pseudoHdr_v6 hv, ← hput, ← hdl 128]
      exact h3

/-- the two words are those `dispatch_udp_probe_raw` swaps for Paris -/
theorem verifies_swap {pre : Buf} (hpre : pre.length % 2 = 0) {a b c d e f g h i j : UInt8} :
    verifies (pre ++ [a, b, c, d, e, f, g, h, i, j]) →
    verifies (pre ++ [a, b, c, d, e, f, i, j, g, h]) := by
  unfold verifies
  rw [Cksum.wordSum_append_even _ _ hpre, Cksum.wordSum_append_even _ _ hpre]
  have e : wordSum [a, b, c, d, e, f, i, j, g, h] = wordSum [a, b, c, d, e, f, g, h, i, j] := by
    simp only [wordSum]
    omega
  rw [e]
  exact id

theorem decodeIcmpEcho_echoPkt (c : ChanCfg) (ck : Nat) {ident seq n : Nat} (h1 : ck < 65536)
    (h2 : ident < 65536) (h3 : seq < 65536) :
    decodeIcmpEcho (echoPkt c ck ident seq n) =
      some { type := if c.v6 then 128 else 8, code := 0, checksum := ck, ident := ident, seq := seq,
             data := List.replicate n c.pattern } := by
  simp only [echoPkt, decodeIcmpEcho, u16_hi_lo h1, u16_hi_lo h2, u16_hi_lo h3]
  cases c.v6 <;> simp

theorem decodeUDP_udpPkt {sp dp ck : Nat} {payload : Buf} (h1 : sp < 65536) (h2 : dp < 65536)
    (h3 : ck < 65536) (h4 : 8 + payload.length < 65536) :
    decodeUDP (udpPkt sp dp ck payload) =
      some ({ srcPort := sp, dstPort := dp, length := 8 + payload.length, checksum := ck }, payload) := by
  simp only [udpPkt, decodeUDP, u16_hi_lo h1, u16_hi_lo h2, u16_hi_lo h3, u16_hi_lo h4]
  simp

theorem decodeUDP6_udpPkt {sp dp ck : Nat} {payload : Buf} (h1 : sp < 65536) (h2 : dp < 65536)
    (h3 : ck < 65536) (h4 : 8 + payload.length < 65536) :
    decodeUDP6 (udpPkt sp dp ck payload) =
      if ck = 0 then none
      else some ({ srcPort := sp, dstPort := dp, length := 8 + payload.length, checksum := ck },
        payload) := by
  rw [decodeUDP6, decodeUDP_udpPkt h1 h2 h3 h4]

theorem udpPkt_length (sp dp ck : Nat) (payload : Buf) :
    (udpPkt sp dp ck payload).length = 8 + payload.length := by
  simp only [udpPkt, List.length_cons]
  omega

theorem echoPkt_length (c : ChanCfg) (ck ident seq n : Nat) :
    (echoPkt c ck ident seq n).length = 8 + n := by
  simp only [echoPkt, List.length_cons, List.length_replicate]
  omega

/-- the Paris datagram: checksum field = sequence, payload = the computed checksum -/
def parisPkt (sp dp seq ck : Nat) : Buf :=
  [hi sp, lo sp, hi dp, lo dp, hi 10, lo 10, hi seq, lo seq, hi ck, lo ck]

theorem parisPkt_eq (sp dp seq ck : Nat) :
    parisPkt sp dp seq ck = udpPkt sp dp seq [hi ck, lo ck] := rfl

theorem makeUdpParis_of_makeUdp (c : ChanCfg) (hc : c.AddrOk) {sp dp seq ck : Nat}
    (hm : makeUdp c sp dp [hi seq, lo seq] = .ok (ck, udpPkt sp dp ck [hi seq, lo seq]))
    (hver : verifies (pseudoHdr c 17 10 ++ udpPkt sp dp ck [hi seq, lo seq])) :
    makeUdpParis c sp dp seq = .ok (parisPkt sp dp seq ck) ∧
      verifies (pseudoHdr c 17 10 ++ parisPkt sp dp seq ck) :=
  ⟨by simp [makeUdpParis, hm, parisPkt],
    verifies_swap (pseudoHdr_even c hc 17 10) hver⟩

theorem makeUdpParis_spec (c : ChanCfg) (hc : c.AddrOk) (sp dp seq : Nat) :
    ∃ ck, ck ≤ 0xFFFF ∧ makeUdpParis c sp dp seq = .ok (parisPkt sp dp seq ck) ∧
      verifies (pseudoHdr c 17 10 ++ parisPkt sp dp seq ck) := by
  have hb : 8 + [hi seq, lo seq].length ≤ maxUdpBuf c := by
    rw [(sizes c).udpBuf, (sizes c).udpPayload]
    simp only [List.length_cons, List.length_nil]
    split <;> omega
  obtain ⟨ck, h1, h2, h3⟩ := makeUdp_spec c hc sp dp [hi seq, lo seq] hb
  exact ⟨ck, h1, makeUdpParis_of_makeUdp c hc h2 h3⟩

/-- the payload `dispatch_udp_probe_raw` hands to `make_udp_packet` -/
def rawPayload (c : ChanCfg) (p : Strat.Probe) : Buf :=
  if isParis p.flags then [hi p.seq, lo p.seq]
  else if c.v6 && isDublin p.flags then
    Consts.net6_MAGIC ++ List.replicate (p.seq - c.initialSeq) c.pattern
  else List.replicate (c.packetSize - l4Hdr - ipHdr c) c.pattern

theorem rawPayload_paris (c : ChanCfg) {p : Strat.Probe} (hf : isParis p.flags = true) :
    rawPayload c p = [hi p.seq, lo p.seq] := by
  rw [rawPayload, if_pos hf]

theorem rawPayload_dublin6 {c : ChanCfg} {p : Strat.Probe} (hf : isParis p.flags = false)
    (hv : c.v6 = true) (hd : isDublin p.flags = true) :
    rawPayload c p = Consts.net6_MAGIC ++ List.replicate (p.seq - c.initialSeq) c.pattern := by
  simp [rawPayload, hf, hv, hd]

theorem rawPayload_pattern {c : ChanCfg} {p : Strat.Probe} (hf : isParis p.flags = false)
    (hd : (c.v6 && isDublin p.flags) = false) :
    rawPayload c p = List.replicate (c.packetSize - l4Hdr - ipHdr c) c.pattern := by
  simp [rawPayload, hf, hd]

/-- `hwin`: 970 = `MAX_UDP_PAYLOAD_BUF` (976 over IPv6) less the six marker octets -/
theorem rawPayload_length_le (c : ChanCfg) (hsz : SizeOk c) (p : Strat.Probe)
    (hwin : isParis p.flags = false → c.v6 = true → isDublin p.flags = true →
      c.initialSeq ≤ p.seq ∧ p.seq - c.initialSeq ≤ 970) :
    (rawPayload c p).length ≤ maxUdpPayload c := by
  rw [(sizes c).udpPayload]
  cases hf : isParis p.flags
  · cases hd : (c.v6 && isDublin p.flags)
    · rw [rawPayload_pattern hf hd, List.length_replicate]
      exact hsz.payload_le
    · simp only [Bool.and_eq_true] at hd
      have := hwin hf hd.1 hd.2
      rw [rawPayload_dublin6 hf hd.1 hd.2, List.length_append, List.length_replicate, magic_length,
        if_pos hd.1]
      omega
  · rw [rawPayload_paris c hf]
    simp only [List.length_cons, List.length_nil]
    split <;> omega

def rawUdp (c : ChanCfg) (p : Strat.Probe) (ck : Nat) : Buf :=
  if isParis p.flags then parisPkt p.srcPort p.destPort p.seq ck
  else udpPkt p.srcPort p.destPort ck (rawPayload c p)

theorem rawUdp_paris (c : ChanCfg) {p : Strat.Probe} (ck : Nat) (hf : isParis p.flags = true) :
    rawUdp c p ck = parisPkt p.srcPort p.destPort p.seq ck := by
  rw [rawUdp, if_pos hf]

theorem rawUdp_of_not_paris (c : ChanCfg) {p : Strat.Probe} (ck : Nat)
    (hf : isParis p.flags = false) :
    rawUdp c p ck = udpPkt p.srcPort p.destPort ck (rawPayload c p) := by
  simp [rawUdp, hf]

theorem rawUdp_length (c : ChanCfg) (p : Strat.Probe) (ck : Nat) :
    (rawUdp c p ck).length = 8 + (rawPayload c p).length := by
  cases hf : isParis p.flags
  · rw [rawUdp_of_not_paris c ck hf, udpPkt_length]
  · rw [rawUdp_paris c ck hf, rawPayload_paris c hf]
    rfl

/-- the first eight octets as conses: the shape `IsDatagram4` / `IsDatagram6` take -/
theorem rawUdp_cons (c : ChanCfg) (p : Strat.Probe) (ck : Nat) :
    ∃ l0 l1 x0 x1 rest,
      rawUdp c p ck = hi p.srcPort :: lo p.srcPort :: hi p.destPort :: lo p.destPort ::
        l0 :: l1 :: x0 :: x1 :: rest ∧
      (l0 = hi (8 + rest.length) ∧ l1 = lo (8 + rest.length)) ∧
      rest.length = (rawPayload c p).length ∧
      (isParis p.flags = true → x0 = hi p.seq ∧ x1 = lo p.seq) ∧
      (isParis p.flags = false → rest = rawPayload c p) := by
  cases hf : isParis p.flags
  · exact ⟨_, _, _, _, _, rawUdp_of_not_paris c ck hf, ⟨rfl, rfl⟩, rfl, nofun, fun _ => rfl⟩
  · rw [rawPayload_paris c hf]
    exact ⟨_, _, _, _, _, rawUdp_paris c ck hf, ⟨rfl, rfl⟩, rfl, fun _ => ⟨rfl, rfl⟩,
      nofun⟩

/-- what goes to the send socket for a transport packet `l4`: over IPv6 the kernel adds the header -/
def sendRaw (c : ChanCfg) (proto : UInt8) (p : Strat.Probe) (ident port : Nat) (l4 : Buf) :
    List SockOp :=
  if c.v6 then [.setHops p.ttl, .sendTo l4 c.dst 0]
  else [.sendTo (ip4Bytes c proto p.ttl ident l4) c.dst port]

theorem sendRaw_v4 {c : ChanCfg} (hv : c.v6 = false) (proto : UInt8) (p : Strat.Probe)
    (ident port : Nat) (l4 : Buf) :
    sendRaw c proto p ident port l4 = [.sendTo (ip4Bytes c proto p.ttl ident l4) c.dst port] := by
  simp [sendRaw, hv]

theorem sendRaw_v6 {c : ChanCfg} (hv : c.v6 = true) (proto : UInt8) (p : Strat.Probe)
    (ident port : Nat) (l4 : Buf) :
    sendRaw c proto p ident port l4 = [.setHops p.ttl, .sendTo l4 c.dst 0] := by
  simp [sendRaw, hv]

/-- the left side is how `dispatchIcmp` and `dispatchUdpRaw` end in the model, once `l4` is bound -/
theorem sendRaw_ok (c : ChanCfg) (proto : UInt8) (p : Strat.Probe) (ident port : Nat) (l4 : Buf)
    (h : 20 + l4.length ≤ 1024) :
    (if c.v6 then (pure [.setHops p.ttl, .sendTo l4 c.dst 0] : R (List SockOp))
     else do
      let ip ← makeIpv4 c proto p.ttl ident l4
      pure [.sendTo ip c.dst port]) = .ok (sendRaw c proto p ident port l4) := by
  cases hv : c.v6
  · rw [sendRaw_v4 hv, makeIpv4_eq h]
    rfl
  · rw [sendRaw_v6 hv]
    rfl

theorem dispatch_icmp (c : ChanCfg) (hc : c.AddrOk) (hp : c.proto = .icmp) (hsz : SizeOk c)
    (p : Strat.Probe) :
    ∃ ck, ck ≤ 0xFFFF ∧
      verifies ((if c.v6 then pseudoHdr c 58 (8 + (c.packetSize - l4Hdr - ipHdr c)) else []) ++
        echoPkt c ck p.ident p.seq (c.packetSize - l4Hdr - ipHdr c)) ∧
      dispatch c p = .ok (sendRaw c protoIcmp p 0 0
        (echoPkt c ck p.ident p.seq (c.packetSize - l4Hdr - ipHdr c))) := by
  have hpay := hsz.payload_le
  obtain ⟨ck, hck, he, hver⟩ := makeEchoRequest_spec c hc p.ident p.seq
    (c.packetSize - l4Hdr - ipHdr c) (by rw [(sizes c).icmpPayload]; exact hpay)
  refine ⟨ck, hck, hver, ?_⟩
  simp only [dispatch, hp, dispatchIcmp, if_neg (not_not_intro ((sizeOk_iff_icmp c).1 hsz)), he,
    R.bind_ok]
  refine sendRaw_ok c protoIcmp p 0 0 _ ?_
  rw [echoPkt_length]
  split at hpay <;> omega

theorem dispatch_udp_eq (c : ChanCfg) (hp : c.proto = .udp) (hsz : SizeOk c) (p : Strat.Probe) :
    dispatch c p =
      if c.privileged then
        dispatchUdpRaw c p (List.replicate (c.packetSize - l4Hdr - ipHdr c) c.pattern)
      else .ok (dispatchUdpNonRaw c p (List.replicate (c.packetSize - l4Hdr - ipHdr c) c.pattern)) := by
  have hpl : ¬ (c.packetSize - l4Hdr - ipHdr c > maxUdpPayload c) := by
    rw [(sizes c).udpPayload]
    exact Nat.not_lt.2 hsz.payload_le
  simp only [dispatch, hp, dispatchUdp, if_neg (not_not_intro ((sizeOk_iff_udp c).1 hsz)),
    if_neg hpl]

theorem dispatch_udp_nonraw (c : ChanCfg) (hp : c.proto = .udp) (hpriv : c.privileged = false)
    (hsz : SizeOk c) (p : Strat.Probe) :
    dispatch c p =
      .ok (dispatchUdpNonRaw c p (List.replicate (c.packetSize - l4Hdr - ipHdr c) c.pattern)) := by
  rw [dispatch_udp_eq c hp hsz p, if_neg (by simp [hpriv])]

theorem dispatch_tcp (c : ChanCfg) (hp : c.proto = .tcp) (p : Strat.Probe) :
    dispatch c p = .ok (dispatchTcp c p) := by
  simp only [dispatch, hp]

/-- outside the window `hwin` the code panics (`C11.dublin_v6_outside_window`) -/
theorem dispatch_udp_raw (c : ChanCfg) (hc : c.AddrOk) (hp : c.proto = .udp)
    (hpriv : c.privileged = true) (hsz : SizeOk c) (p : Strat.Probe)
    (hwin : isParis p.flags = false → c.v6 = true → isDublin p.flags = true →
      c.initialSeq ≤ p.seq ∧ p.seq - c.initialSeq ≤ 970) :
    ∃ ck, ck ≤ 0xFFFF ∧
      makeUdp c p.srcPort p.destPort (rawPayload c p) =
        .ok (ck, udpPkt p.srcPort p.destPort ck (rawPayload c p)) ∧
      verifies (pseudoHdr c 17 (8 + (rawPayload c p).length) ++ rawUdp c p ck) ∧
      20 + (8 + (rawPayload c p).length) ≤ 1024 ∧
      dispatch c p = .ok (sendRaw c protoUdp p p.ident p.destPort (rawUdp c p ck)) := by
  have hpay := rawPayload_length_le c hsz p hwin
  have h5 := (sizes c).udpPayload
  have hfit : 20 + (8 + (rawPayload c p).length) ≤ 1024 := by
    rw [h5] at hpay
    split at hpay <;> omega
  obtain ⟨ck, hck, hm, hver⟩ := makeUdp_spec c hc p.srcPort p.destPort (rawPayload c p)
    (by rw [(sizes c).udpBuf]; omega)
  have hsend := sendRaw_ok c protoUdp p p.ident p.destPort (rawUdp c p ck)
    (by rw [rawUdp_length]; exact hfit)
  suffices h : verifies (pseudoHdr c 17 (8 + (rawPayload c p).length) ++ rawUdp c p ck) ∧
      dispatchUdpRaw c p (List.replicate (c.packetSize - l4Hdr - ipHdr c) c.pattern) =
        .ok (sendRaw c protoUdp p p.ident p.destPort (rawUdp c p ck)) by
    rw [dispatch_udp_eq c hp hsz, if_pos hpriv]
    exact ⟨ck, hck, hm, h.1, hfit, h.2⟩
  rw [← hsend]
  unfold dispatchUdpRaw
  cases hf : isParis p.flags
  · rw [rawUdp_of_not_paris c ck hf]
    refine ⟨hver, ?_⟩
    cases hdu : (c.v6 && isDublin p.flags)
    · rw [rawPayload_pattern hf hdu] at hm ⊢
      simp [hm]
    · simp only [Bool.and_eq_true] at hdu
      have hw := hwin hf hdu.1 hdu.2
      have hfit6 : ¬ (p.seq - c.initialSeq + Consts.net6_MAGIC.length > maxUdpPayload c) := by
        rw [h5, magic_length, if_pos hdu.1]
        omega
      rw [rawPayload_dublin6 hf hdu.1 hdu.2] at hm ⊢
      simp [Strat.subU, hw.1, hfit6, hm]
  · rw [rawUdp_paris c ck hf]
    rw [rawPayload_paris c hf] at hm hver ⊢
    obtain ⟨hmp, hvp⟩ := makeUdpParis_of_makeUdp c hc hm hver
    refine ⟨hvp, ?_⟩
    simp [hmp]

/-- an IPv4 datagram without options: identification `i0 i1`, protocol `pr`, first eight octets of data `a0 … a7` -/
def IsDatagram4 (src dst : Buf) (d : Buf) (i0 i1 pr a0 a1 a2 a3 a4 a5 a6 a7 : UInt8) : Prop :=
  ∃ tos l0 l1 f0 f1 ttl c0 c1 rest,
    d = [0x45, tos, l0, l1, i0, i1, f0, f1, ttl, pr, c0, c1] ++ src ++ dst ++
      (a0 :: a1 :: a2 :: a3 :: a4 :: a5 :: a6 :: a7 :: rest)

/-- an IPv6 datagram: next header `nh`, payload `a0 … a7` then `rest`, payload-length field consistent -/
def IsDatagram6 (src dst : Buf) (d : Buf) (nh a0 a1 a2 a3 a4 a5 a6 a7 : UInt8) (rest : Buf) : Prop :=
  ∃ b0 b1 b2 b3 p0 p1 hl,
    d = [b0, b1, b2, b3, p0, p1, nh, hl] ++ src ++ dst ++
      (a0 :: a1 :: a2 :: a3 :: a4 :: a5 :: a6 :: a7 :: rest) ∧
    beN p0 p1 = 8 + rest.length

theorem isDatagram4_ip4Bytes {c : ChanCfg} {proto : UInt8} {ttl ident : Nat}
    {a0 a1 a2 a3 a4 a5 a6 a7 : UInt8} {rest : Buf} :
    IsDatagram4 c.src c.dst
      (ip4Bytes c proto ttl ident (a0 :: a1 :: a2 :: a3 :: a4 :: a5 :: a6 :: a7 :: rest))
      (hi ident) (lo ident) proto a0 a1 a2 a3 a4 a5 a6 a7 :=
  ⟨_, _, _, _, _, _, _, _, _, rfl⟩

theorem isDatagram4_kernel {c : ChanCfg} {k : KernelFill} {tos ttl : Nat} {proto : UInt8}
    {l4len : Nat} {a0 a1 a2 a3 a4 a5 a6 a7 : UInt8} {rest : Buf} :
    IsDatagram4 c.src c.dst
      (kernelIp4 k tos ttl proto c.src c.dst l4len ++
        (a0 :: a1 :: a2 :: a3 :: a4 :: a5 :: a6 :: a7 :: rest))
      k.id0 k.id1 proto a0 a1 a2 a3 a4 a5 a6 a7 :=
  ⟨_, _, _, _, _, _, _, _, _, rfl⟩

theorem isDatagram6_kernel {c : ChanCfg} {k : KernelFill} {hops : Nat} {nh : UInt8}
    {a0 a1 a2 a3 a4 a5 a6 a7 : UInt8} {rest : Buf} {l4len : Nat} (hl : l4len = 8 + rest.length)
    (hl' : 8 + rest.length < 65536) :
    IsDatagram6 c.src c.dst
      (kernelIp6 k hops nh c.src c.dst l4len ++
        (a0 :: a1 :: a2 :: a3 :: a4 :: a5 :: a6 :: a7 :: rest))
      nh a0 a1 a2 a3 a4 a5 a6 a7 rest := by
  refine ⟨_, _, _, _, _, _, _, rfl, ?_⟩
  rw [hl]; exact hi_lo hl'

theorem wire_sendRaw {c : ChanCfg} (k : KernelFill) {p : Strat.Probe} {proto : UInt8}
    {ident port : Nat} {l4 : Buf} (h : dispatch c p = .ok (sendRaw c proto p ident port l4)) :
    wireDatagram c k p = some
      (if c.v6 then
        kernelIp6 k p.ttl (match c.proto with | .icmp => protoIcmpV6 | _ => protoUdp) c.src c.dst
          l4.length ++ l4
       else ip4Bytes c proto p.ttl ident l4) := by
  simp only [wireDatagram, h]
  cases hv : c.v6
  · rw [sendRaw_v4 hv]
    rfl
  · rw [sendRaw_v6 hv]
    rfl

theorem kernelTcp_cons (k : KernelFill) (hk : 16 ≤ k.tcpRest.length) (sp dp : Nat) :
    ∃ t0 t1 t2 t3 trest, k.tcpRest = t0 :: t1 :: t2 :: t3 :: trest ∧
      kernelTcp k sp dp = hi sp :: lo sp :: hi dp :: lo dp :: t0 :: t1 :: t2 :: t3 :: trest := by
  match h : k.tcpRest, hk with
  | t0 :: t1 :: t2 :: t3 :: trest, _ => exact ⟨t0, t1, t2, t3, trest, rfl, by rw [kernelTcp, h]; rfl⟩

end TV.Wire
