import TrippyVerif.Lemmas.StateAgg
/-!
The fold of a hop's outcomes computes the direct definitions of `Spec/Reagg.lean`: the statistics (`stats_fold`), the
jitter (`jitter_fold`), the address counts, and the bounds C05's conservation laws need.
-/
namespace TV.Agg
open TV.Strat TV.Reagg

variable {F : Type} [Num F]

theorem snoc_induction {α} {P : List α → Prop} (nil : P []) (snoc : ∀ l x, P l → P (l ++ [x])) :
    ∀ l, P l := by
  intro l
  have : ∀ r : List α, P r.reverse := by
    intro r
    induction r with
    | nil => exact nil
    | cons x r ih =>
      rw [List.reverse_cons]
      exact snoc _ _ ih
  simpa using this l.reverse

theorem min?_snoc (l : List Nat) (x : Nat) : (l ++ [x]).min? = some (l.min?.elim x (min · x)) := by
  cases l with
  | nil => rfl
  | cons a l => rw [List.cons_append, List.min?_cons', List.min?_cons', List.foldl_append]; rfl

theorem max?_snoc (l : List Nat) (x : Nat) : (l ++ [x]).max? = some (l.max?.elim x (max · x)) := by
  cases l with
  | nil => rfl
  | cons a l => rw [List.cons_append, List.max?_cons', List.max?_cons', List.foldl_append]; rfl

theorem pushSample_take (ms : Nat) (l : List Nat) (d : Nat) :
    pushSample ms (l.take ms) d = (d :: l).take ms := by
  unfold pushSample
  simp only [List.length_cons, List.length_take]
  by_cases h : ms ≤ l.length
  · -- full: `d :: l.take ms` has `ms + 1` elements and `dropLast` is `take ms`
    have : min ms l.length + 1 > ms := by omega
    simp only [this, if_true, List.dropLast_eq_take, List.length_cons, List.length_take]
    cases ms with
    | zero => simp
    | succ n =>
      have : min (n + 1) l.length + 1 - 1 = n + 1 := by omega
      rw [this, List.take_succ_cons, List.take_succ_cons, List.take_take]
      congr 2; omega
  · -- room left: both `take`s are the whole list
    have : ¬ (min ms l.length + 1 > ms) := by omega
    simp only [this, if_false]
    rw [List.take_of_length_le (by omega)]
    rw [List.take_of_length_le (by simp; omega)]

theorem mem_firstSeen (a : Nat) (l : List Nat) : a ∈ firstSeen l ↔ a ∈ l := by
  induction l with
  | nil => simp [firstSeen]
  | cons x l ih =>
    simp only [firstSeen, List.mem_cons, List.mem_filter, ih]
    by_cases h : a = x <;> simp [h]

theorem nodup_firstSeen (l : List Nat) : (firstSeen l).Nodup := by
  induction l with
  | nil => simp [firstSeen]
  | cons x l ih =>
    simp only [firstSeen, List.nodup_cons, List.mem_filter]
    exact ⟨by simp, ih.filter _⟩

theorem firstSeen_snoc (l : List Nat) (a : Nat) :
    firstSeen (l ++ [a]) = if a ∈ l then firstSeen l else firstSeen l ++ [a] := by
  induction l with
  | nil => simp [firstSeen]
  | cons x l ih =>
    simp only [List.cons_append, firstSeen, ih, List.mem_cons]
    by_cases hax : a = x
    · subst hax
      by_cases hal : a ∈ l <;> simp [hal, List.filter_append]
    · by_cases hal : a ∈ l <;> simp [hal, hax, List.filter_append]

theorem bumpAddr_map (ks : List Nat) (c : Nat → Nat) (a : Nat) (hnd : ks.Nodup) :
    bumpAddr (ks.map fun k => (k, c k)) a =
      if a ∈ ks then ks.map (fun k => (k, c k + if k = a then 1 else 0))
      else (ks.map fun k => (k, c k)) ++ [(a, 1)] := by
  induction ks with
  | nil => simp [bumpAddr]
  | cons k ks ih =>
    rw [List.nodup_cons] at hnd
    simp only [List.map_cons, bumpAddr, List.mem_cons]
    by_cases hk : k = a
    · subst hk
      simp only [if_true, true_or]
      congr 1
      apply List.map_congr_left
      intro x hx
      have : x ≠ k := fun h => hnd.1 (h ▸ hx)
      simp [this]
    · have hk' : ¬ a = k := fun h => hk h.symm
      simp only [hk, if_false, hk', false_or, ih hnd.2]
      split <;> simp

theorem addrCounts_snoc (hs : List Nat) (a : Nat) :
    addrCounts (hs ++ [a]) = bumpAddr (addrCounts hs) a := by
  unfold addrCounts
  rw [bumpAddr_map _ _ _ (nodup_firstSeen hs), firstSeen_snoc]
  simp only [mem_firstSeen]
  by_cases h : a ∈ hs
  · simp only [h, if_true]
    apply List.map_congr_left
    intro x hx
    by_cases hxa : x = a
    · simp [List.count_append, hxa]
    · have : (a == x) = false := beq_false_of_ne fun h => hxa h.symm
      simp [List.count_append, hxa, List.count_cons, this]
  · simp only [h, if_false, List.map_append, List.map_cons, List.map_nil]
    congr 1
    · apply List.map_congr_left
      intro x hx
      have : x ≠ a := fun hh => h (hh ▸ (mem_firstSeen x hs).1 hx)
      have hb : (a == x) = false := beq_false_of_ne fun h => this h.symm
      simp [List.count_append, List.count_cons, hb]
    · simp [List.count_append, List.count_eq_zero_of_not_mem h]

theorem jittersFrom_snoc (ds : List Nat) (d : Nat) : ∀ p,
    jittersFrom p (ds ++ [d]) = jittersFrom p ds ++ [absDiff d ((ds.getLast?).getD p)] := by
  induction ds with
  | nil => intro p; simp [jittersFrom]
  | cons x ds ih =>
    intro p
    simp only [List.cons_append, jittersFrom, ih, List.getLast?_cons]
    cases ds.getLast? <;> simp

theorem jittersFrom_length (ds : List Nat) : ∀ p, (jittersFrom p ds).length = ds.length := by
  induction ds with
  | nil => intro _; rfl
  | cons x ds ih => intro p; simp [jittersFrom, ih]

theorem rtts_snoc (os : List Outcome) (o : Outcome) : rtts (os ++ [o]) = rtts os ++ o.rtt.toList := by
  cases o <;> simp [rtts, List.filterMap_append, List.filterMap_cons, Outcome.rtt]

theorem statsOf_failed (ms : Nat) (h : Hop F) (p : Probe) :
    statsOf (hopStep ms h (.failed p)) =
      { statsOf h with
        ttl := p.ttl, sent := (statsOf h).sent + 1, failed := (statsOf h).failed + 1,
        samples := pushSample ms (statsOf h).samples 0,
        lastSrcPort := p.srcPort, lastDestPort := p.destPort, lastSequence := p.seq } := rfl

theorem statsOf_awaited (ms : Nat) (h : Hop F) (p : Probe) (l : Loss) :
    statsOf (hopStep ms h (.awaited p l)) =
      { statsOf h with
        ttl := p.ttl, sent := (statsOf h).sent + 1,
        forwardLost := if l = .forward then (statsOf h).forwardLost + 1 else (statsOf h).forwardLost,
        backwardLost := if l = .backward then (statsOf h).backwardLost + 1 else (statsOf h).backwardLost,
        samples := pushSample ms (statsOf h).samples 0,
        lastSrcPort := p.srcPort, lastDestPort := p.destPort, lastSequence := p.seq } := rfl

theorem statsOf_complete (ms : Nat) (h : Hop F) (c : Complete) (n : Option NatStatus) :
    statsOf (hopStep ms h (.complete c n)) =
      let d := c.received - c.probe.sent
      { statsOf h with
        ttl := c.probe.ttl, sent := (statsOf h).sent + 1, recv := (statsOf h).recv + 1,
        totalTime := (statsOf h).totalTime + d, last := some d,
        best := some ((statsOf h).best.elim d (min · d)), worst := some ((statsOf h).worst.elim d (max · d)),
        samples := pushSample ms (statsOf h).samples d, addrs := bumpAddr (statsOf h).addrs c.host,
        lastSrcPort := c.probe.srcPort, lastDestPort := c.probe.destPort, lastSequence := c.probe.seq,
        lastIcmp := some c.kind, lastNatStatus := n.getD (statsOf h).lastNatStatus,
        tos := c.tos, extensions := c.ext } := by
  simp only [hopStep_complete, statsOf, Hop.complete, Stats.mk.injEq, true_and, and_true]
  exact ⟨by cases h.best <;> rfl, by cases h.worst <;> rfl⟩

/-! `reagg` is made of `length`, `countP`, `filterMap`, `sum`, `getLast?` and a prefix of the reversed list, each with
its value on `os ++ [o]`: with these as simp lemmas the one-step equations `statsOf_*` become `reagg ms (os ++ [o])`. -/
section
attribute [local simp] reagg hosts completes Outcome.rtt Outcome.probe Outcome.isFailed Outcome.hasLoss
  Outcome.host Outcome.completed Outcome.nat Outcome.sample
attribute [local simp] rtts_snoc List.filterMap_append List.filterMap_cons List.countP_append pushSample_take

/-- C05, the exact fields -/
theorem stats_fold (ms : Nat) (os : List Outcome) :
    statsOf (os.foldl (hopStep (F := F) ms) Hop.default) = reagg ms os := by
  induction os using snoc_induction with
  | nil => simp [statsOf, Hop.default, rtts, addrCounts, firstSeen]
  | snoc os o ih =>
    rw [List.foldl_append, List.foldl_cons, List.foldl_nil]
    generalize os.foldl (hopStep (F := F) ms) Hop.default = h at ih
    cases o with
    | failed p =>
      rw [statsOf_failed, ih]
      simp
    | awaited p l =>
      rw [statsOf_awaited, ih]
      cases l <;> simp
    | complete c n =>
      rw [statsOf_complete, ih]
      cases n <;> simp [min?_snoc, max?_snoc, ← addrCounts_snoc, List.sum_append, List.getLast?_append]

end

/-- the number type converts the jitter durations exactly (true over ℚ; for `f64` only up to the
rounding of `Duration::from_secs_f64`, which the harness bounds by ±2 ns) -/
class ExactDur (F : Type) [Num F] : Prop where
  toDur_diff : ∀ a b : Nat, Num.toDur (Num.abs ((Num.durMs a : F) - Num.durMs b)) = absDiff a b
  toDur_first : ∀ a : Nat, Num.toDur (Num.abs ((Num.durMs a : F) - Num.ofNat 0)) = a

theorem absDiff_zero (a : Nat) : absDiff a 0 = a := by simp [absDiff]

/-- C05 (jitter): current and worst jitter are those of the exact series `|dᵢ − dᵢ₋₁|` -/
theorem jitter_fold [ExactDur F] (ms : Nat) (os : List Outcome) :
    (os.foldl (hopStep (F := F) ms) Hop.default).jitter = jitterSpec os ∧
    (os.foldl (hopStep (F := F) ms) Hop.default).jmax = jmaxSpec os := by
  induction os using snoc_induction with
  | nil => simp [Hop.default, jitterSpec, jmaxSpec, rtts, jitters, jittersFrom]
  | snoc os o ih =>
    have hs := stats_fold (F := F) ms os
    rw [List.foldl_append, List.foldl_cons, List.foldl_nil]
    generalize os.foldl (hopStep (F := F) ms) Hop.default = h at ih hs
    have hlast : h.last = (rtts os).getLast? := congrArg Stats.last hs
    obtain ⟨ij, im⟩ := ih
    cases o with
    | failed p => simpa [hopStep, Hop.failed, jitterSpec, jmaxSpec, rtts_snoc, Outcome.rtt] using ⟨ij, im⟩
    | awaited p l => simpa [hopStep, Hop.awaited, jitterSpec, jmaxSpec, rtts_snoc, Outcome.rtt] using ⟨ij, im⟩
    | complete c n =>
      -- the code's `last` is the last rtt (`hlast`), so its new jitter is the new last element of the
      -- jitter series (`jittersFrom_snoc`); `jitter` shows it from the second response on, `jmax` always
      simp only [hopStep_complete, Hop.complete, jitterSpec, jmaxSpec, rtts_snoc, Outcome.rtt, Option.toList,
        jitters, jittersFrom_snoc, List.getLast?_concat, List.length_append, List.length_cons,
        List.length_nil, max?_snoc]
      rw [hlast, im]
      cases hl : (rtts os).getLast? with
      | none =>
        have : rtts os = [] := by simpa using hl
        simp [this, ExactDur.toDur_first, absDiff_zero, jmaxSpec, jitters, jittersFrom]
      | some l =>
        have : (rtts os).length ≠ 0 := by
          intro h0
          simp [List.length_eq_zero_iff.1 h0] at hl
        have h2 : ¬ ((rtts os).length + 1 < 2) := by omega
        simp only [h2, if_false, ExactDur.toDur_diff, Option.getD_some, jmaxSpec, jitters]
        cases (jittersFrom 0 (rtts os)).max? <;> simp

theorem counts_le (os : List Outcome) :
    (rtts os).length + os.countP Outcome.isFailed + os.countP (Outcome.hasLoss .forward)
      + os.countP (Outcome.hasLoss .backward) ≤ os.length := by
  induction os with
  | nil => simp [rtts]
  | cons o os ih =>
    -- an outcome raises the length and at most one of the four counters
    simp only [rtts, List.filterMap_cons, List.countP_cons, List.length_cons] at ih ⊢
    rcases o with ⟨c, n⟩ | ⟨p, _ | _ | _⟩ | p
    all_goals
      simp [Outcome.rtt, Outcome.isFailed, Outcome.hasLoss]
      omega

theorem hosts_length (os : List Outcome) : (hosts os).length = (rtts os).length := by
  induction os with
  | nil => rfl
  | cons o os ih =>
    simp only [hosts, rtts, List.filterMap_cons] at ih ⊢
    cases o
    all_goals simp only [Outcome.host, Outcome.rtt, List.length_cons, ih]

theorem bumpAddr_sum (l : List (Nat × Nat)) (a : Nat) :
    ((bumpAddr l a).map (·.2)).sum = (l.map (·.2)).sum + 1 := by
  induction l with
  | nil => simp [bumpAddr]
  | cons x l ih =>
    obtain ⟨k, n⟩ := x
    simp only [bumpAddr]
    split
    · simp
      omega
    · simp [ih]
      omega

theorem addrCounts_sum (hs : List Nat) : ((addrCounts hs).map (·.2)).sum = hs.length := by
  induction hs using snoc_induction with
  | nil => simp [addrCounts, firstSeen]
  | snoc hs a ih => rw [addrCounts_snoc, bumpAddr_sum, ih]; simp

theorem best_worst (l : List Nat) (b w : Nat) (hb : l.min? = some b) (hw : l.max? = some w) :
    b ≤ w ∧ b * l.length ≤ l.sum ∧ l.sum ≤ w * l.length :=
  ⟨(List.max?_eq_some_iff.1 hw).2 b (List.min?_eq_some_iff.1 hb).1,
    List.mul_length_le_sum_of_min?_eq_some_nat hb, List.sum_le_max_mul_length_of_max?_eq_some_nat hw⟩

end TV.Agg
