import TrippyVerif.Model.Channel
/-!
`send_probe` and `recv_probe` in closed form, and what they leave of the channel.
-/
namespace TV.Chan
open TV.Wire

theorem runOps_none (path : Path) (ops : List SockOp) : runOps path none ops = (ops, none) := by
  induction ops with
  | nil => rfl
  | cons op rest ih => simp [runOps, ih]

theorem MAX_TCP_PROBES_eq : MAX_TCP_PROBES = 256 := rfl

theorem MAX_PACKET_SIZE_eq : MAX_PACKET_SIZE = 1024 := rfl

theorem send_eq (ch : Chan) (hs : ch.cfg.proto ≠ .tcp → ch.hasSend = true) (p : Strat.Probe) (inj : Inject) :
    send ch p inj =
      if ch.cfg.proto = .tcp ∧ ch.tcp.length ≥ 256 then (ch, .err .capacity []) else
      match Wire.dispatch ch.cfg p with
      | .ok ops =>
        (match runOps (pathOf ch.cfg) inj ops with
         | (done, some e) => (ch, .err e done)
         | (done, none) =>
           (if ch.cfg.proto = .tcp then { ch with tcp := ch.tcp ++ [⟨p.srcPort, p.destPort, ch.now⟩] } else ch,
            .ok done))
      | .err e => (ch, .err e [])
      | .panic => (ch, .panic) := by
  unfold send sendOld
  rw [MAX_TCP_PROBES_eq]
  cases hp : ch.cfg.proto with
  | tcp =>
    simp only [true_and, if_true]
    -- below the guard the `push` does not meet a full vector
    by_cases hfull : ch.tcp.length ≥ 256
    · simp only [if_pos hfull]
    · simp only [if_neg hfull]
      rfl
  | icmp | udp =>
    rw [hs (by simp [hp])]
    rfl

theorem send_tcp_ok (ch : Chan) (hp : ch.cfg.proto = .tcp) (hl : ch.tcp.length < 256)
    (p : Strat.Probe) :
    send ch p none =
      ({ ch with tcp := ch.tcp ++ [⟨p.srcPort, p.destPort, ch.now⟩] }, .ok (dispatchTcp ch.cfg p)) := by
  rw [send_eq ch (fun h => absurd hp h), if_neg fun h => Nat.not_le.mpr hl h.2]
  simp [hp, Wire.dispatch, runOps_none]

/-- what `send_probe` and `recv_probe` leave alone (`readTimeout`, which neither reads, is left out) -/
structure SameChan (a b : Chan) : Prop where
  cfg : b.cfg = a.cfg
  now : b.now = a.now
  tcpTimeout : b.tcpTimeout = a.tcpTimeout
  hasSend : b.hasSend = a.hasSend

theorem SameChan.refl (a : Chan) : SameChan a a := ⟨rfl, rfl, rfl, rfl⟩

theorem SameChan.trans {a b c : Chan} (h1 : SameChan a b) (h2 : SameChan b c) : SameChan a c :=
  ⟨h2.cfg.trans h1.cfg, h2.now.trans h1.now, h2.tcpTimeout.trans h1.tcpTimeout,
    h2.hasSend.trans h1.hasSend⟩

theorem SameChan.advance_cfg {a b : Chan} (h : SameChan a b) (dt : Nat) : (advance b dt).cfg = a.cfg := h.cfg

theorem sendOld_same (ch : Chan) (p : Strat.Probe) (inj : Inject) : SameChan ch (sendOld ch p inj).1 := by
  fun_cases sendOld ch p inj <;> exact ⟨rfl, rfl, rfl, rfl⟩

theorem send_same (ch : Chan) (p : Strat.Probe) (inj : Inject) : SameChan ch (send ch p inj).1 := by
  fun_cases send ch p inj
  · exact ⟨rfl, rfl, rfl, rfl⟩
  · exact sendOld_same ch p inj
  · exact sendOld_same ch p inj

theorem pairUp_map_fst : ∀ (l : List TcpEntry) (env : List SockEnv), (pairUp l env).map (·.1) = l
  | [], _ => by simp [pairUp]
  | e :: es, [] => by simp [pairUp, pairUp_map_fst es []]
  | e :: es, s :: ss => by simp [pairUp, pairUp_map_fst es ss]

theorem firstWritable_eq (l : List (TcpEntry × SockEnv)) :
    l = (firstWritable l).1 ++ (firstWritable l).2.1.toList ++ (firstWritable l).2.2 ∧
    (∀ y ∈ (firstWritable l).1, y.2.writable = false) ∧
    (∀ x ∈ (firstWritable l).2.1, x.2.writable = true) ∧
    ((firstWritable l).2.1 = none → (firstWritable l).2.2 = []) := by
  induction l with
  | nil => simp [firstWritable]
  | cons x rest ih =>
    unfold firstWritable
    by_cases hx : x.2.writable = true
    · simp [hx]
    · obtain ⟨h0, h1, h2, h3⟩ := ih
      simp only [hx, Bool.false_eq_true, if_false]
      refine ⟨by rw [List.cons_append, List.cons_append, ← h0], ?_, h2, h3⟩
      intro y hy
      rcases List.mem_cons.mp hy with rfl | hy
      · simpa using hx
      · exact h1 y hy

theorem firstWritable_sublist (l : List (TcpEntry × SockEnv)) :
    ((firstWritable l).1 ++ (firstWritable l).2.2).Sublist l := by
  conv => rhs; rw [(firstWritable_eq l).1]
  exact (List.sublist_append_left _ _).append (List.Sublist.refl _)

/-- the entries `recv_tcp_sockets` keeps and looks at -/
def kept (ch : Chan) (env : Env) : List (TcpEntry × SockEnv) :=
  (pairUp ch.tcp env.tcp).filter fun x => young ch.now ch.tcpTimeout x.1

theorem kept_sublist (ch : Chan) (env : Env) : ((kept ch env).map (·.1)).Sublist ch.tcp := by
  have h := (List.filter_sublist (l := pairUp ch.tcp env.tcp)
    (p := fun x => young ch.now ch.tcpTimeout x.1)).map (·.1)
  rwa [pairUp_map_fst] at h

theorem kept_young (ch : Chan) (env : Env) : ∀ x ∈ kept ch env, ch.now - x.1.start < ch.tcpTimeout := by
  intro x hx
  have := (List.mem_filter.mp hx).2
  simpa [young] using this

theorem recv_tcp (ch : Chan) (env : Env) (hp : ch.cfg.proto = .tcp) :
    recv ch env =
      { chan := { ch with tcp := ((firstWritable (kept ch env)).1 ++ (firstWritable (kept ch env)).2.2).map (·.1) }
        polled := ((firstWritable (kept ch env)).1 ++ (firstWritable (kept ch env)).2.1.toList).map (·.1)
        out :=
          match (firstWritable (kept ch env)).2.1 with
          | none => recvIcmpPart ch env
          | some x =>
            match tcpOutcome ch.cfg x.1 x.2 with
            | .ok none => recvIcmpPart ch env
            | r => r } := by
  have h3 := (firstWritable_eq (kept ch env)).2.2.2
  unfold recv
  -- `recv` spells `kept` out
  unfold kept at h3 ⊢
  simp only [hp]
  generalize firstWritable _ = fw at h3 ⊢
  obtain ⟨pre, o, post⟩ := fw
  cases o with
  | none =>
    obtain rfl : post = [] := h3 rfl
    simp
  | some x =>
    simp only
    rcases tcpOutcome ch.cfg x.1 x.2 with (_ | _) | _ | _ <;> rfl

theorem tcpOutcome_answers (c : ChanCfg) (e : TcpEntry) {s : SockEnv}
    (hs : s = .refused ∨ (∃ a, s = .connected (some a)) ∨ (∃ a, s = .unreach a)) :
    ∃ r, tcpOutcome c e s = .ok (some r) ∧ r.proto = .tcp (addrNat c.dst) e.srcPort e.destPort none := by
  rcases hs with rfl | ⟨a, rfl⟩ | ⟨a, rfl⟩
  · exact ⟨_, rfl, rfl⟩
  · exact ⟨_, rfl, rfl⟩
  · exact ⟨_, rfl, rfl⟩

theorem tcpOutcome_recvTcp (c : ChanCfg) (e : TcpEntry) {s : SockEnv}
    (hs : s = .refused ∨ (∃ a, s = .connected (some a)) ∨ (∃ a, s = .unreach a)) :
    ∃ sock, (sock ≠ .connected none ∧ sock ≠ .other) ∧
      tcpOutcome c e s = Wire.recvTcp c e.srcPort e.destPort sock := by
  rcases hs with rfl | ⟨a, rfl⟩ | ⟨a, rfl⟩
  · exact ⟨.refused, by simp, rfl⟩
  · exact ⟨.connected (some a), by simp, rfl⟩
  · exact ⟨.hostUnreachable a, by simp, rfl⟩

theorem recvIcmpPart_data (ch : Chan) {env : Env} {src bytes : Buf} (hr : env.readable = .yes)
    (hd : env.dgram = .data src bytes) :
    recvIcmpPart ch env = Wire.recvIcmp ch.cfg (bytes.take 1024) src := by
  simp [recvIcmpPart, hr, hd, MAX_PACKET_SIZE_eq]

theorem recv_nontcp (ch : Chan) (env : Env) (hp : ch.cfg.proto ≠ .tcp) :
    recv ch env = { chan := ch, out := recvIcmpPart ch env, polled := [] } := by
  unfold recv
  cases h : ch.cfg.proto with
  | tcp => exact absurd h hp
  | icmp | udp => rfl

theorem recv_same (ch : Chan) (env : Env) : SameChan ch (recv ch env).chan := by
  by_cases hp : ch.cfg.proto = .tcp
  · rw [recv_tcp ch env hp]
    exact ⟨rfl, rfl, rfl, rfl⟩
  · rw [recv_nontcp ch env hp]
    exact .refl ch

theorem recv_tcp_kept (ch : Chan) (env : Env) (hp : ch.cfg.proto = .tcp) :
    ∃ l : List (TcpEntry × SockEnv), l.Sublist (kept ch env) ∧ (recv ch env).chan.tcp = l.map (·.1) :=
  ⟨_, firstWritable_sublist _, by rw [recv_tcp ch env hp]⟩

theorem recv_sublist (ch : Chan) (env : Env) : (recv ch env).chan.tcp.Sublist ch.tcp := by
  by_cases hp : ch.cfg.proto = .tcp
  · obtain ⟨l, hl, h⟩ := recv_tcp_kept ch env hp
    rw [h]
    exact (hl.map _).trans (kept_sublist ch env)
  · rw [recv_nontcp ch env hp]
    exact List.Sublist.refl _

theorem recv_tcp_young (ch : Chan) (env : Env) (hp : ch.cfg.proto = .tcp) :
    ∀ e ∈ (recv ch env).chan.tcp, ch.now - e.start < ch.tcpTimeout := by
  obtain ⟨l, hl, h⟩ := recv_tcp_kept ch env hp
  rw [h]
  intro e he
  obtain ⟨x, hx, rfl⟩ := List.mem_map.mp he
  exact kept_young ch env x (hl.subset hx)

theorem recv_tcp_starts (ch : Chan) (env : Env) (hp : ch.cfg.proto = .tcp) {l : List Nat}
    (h : (ch.tcp.map (·.start)).Sublist l) :
    ((recv ch env).chan.tcp.map (·.start)).Sublist
      (l.filter fun x => decide (ch.now - x < ch.tcpTimeout)) := by
  have h1 := (((recv_sublist ch env).map (·.start)).trans h).filter
    fun x => decide (ch.now - x < ch.tcpTimeout)
  rwa [List.filter_eq_self.mpr] at h1
  intro x hx
  obtain ⟨e, he, rfl⟩ := List.mem_map.mp hx
  simpa using recv_tcp_young ch env hp e he

end TV.Chan
