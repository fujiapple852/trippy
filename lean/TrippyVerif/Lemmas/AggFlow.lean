import TrippyVerif.Model.StateAgg
/-!
Flows and the flow registry (C15): the order `Flow.le` and the compatibility `Flow.agree` that `Flow::check` and
`Flow::merge` compute, and one registration step `regStep` with its specification `RegStepSpec`.
-/
namespace TV.Agg

def Flow.le (old new : Flow) : Prop :=
  old.length ≤ new.length ∧ ∀ (i a : Nat), old[i]? = some (FlowEntry.known a) → new[i]? = some (FlowEntry.known a)

def Flow.agree (f g : Flow) : Prop :=
  ∀ (i a b : Nat), f[i]? = some (FlowEntry.known a) → g[i]? = some (FlowEntry.known b) → a = b

theorem Flow.le_refl (f : Flow) : Flow.le f f := ⟨Nat.le_refl _, fun _ _ h => h⟩

theorem Flow.le_trans {f g h : Flow} (a : Flow.le f g) (b : Flow.le g h) : Flow.le f h :=
  ⟨Nat.le_trans a.1 b.1, fun i x hx => b.2 i x (a.2 i x hx)⟩

theorem Flow.agree_of_le {f g : Flow} (h : Flow.le f g) : Flow.agree g f := by
  intro i a b hg hf
  have := h.2 i b hf
  rw [hg] at this
  injection this with this
  injection this

theorem Flow.agree_nil_left (g : Flow) : Flow.agree [] g := by intro i a b h; simp at h

theorem Flow.agree_nil_right (f : Flow) : Flow.agree f [] := by intro i a b _ h; simp at h

theorem Flow.agree_cons (o n : FlowEntry) (os ns : Flow) :
    Flow.agree (o :: os) (n :: ns) ↔
      (∀ a b, o = FlowEntry.known a → n = FlowEntry.known b → a = b) ∧ Flow.agree os ns := by
  -- `∀ i` is split into `0` and `i + 1`
  simp [Flow.agree, ← Nat.and_forall_add_one (p := fun i => ∀ a b, (o :: os)[i]? = _ → (n :: ns)[i]? = _ → a = b)]

theorem Flow.le_cons (o n : FlowEntry) (os ns : Flow) :
    Flow.le (o :: os) (n :: ns) ↔ (∀ a, o = FlowEntry.known a → n = FlowEntry.known a) ∧ Flow.le os ns := by
  simp only [Flow.le, ← Nat.and_forall_add_one (p := fun i => ∀ a, (o :: os)[i]? = _ → (n :: ns)[i]? = _),
    List.length_cons, Nat.add_le_add_iff_right, List.getElem?_cons_zero, List.getElem?_cons_succ, Option.some.injEq]
  exact ⟨fun h => ⟨h.2.1, h.1, h.2.2⟩, fun h => ⟨h.2.1, h.1, h.2.2⟩⟩

theorem Flow.nil_le (f : Flow) : Flow.le [] f := ⟨Nat.zero_le _, by simp⟩

theorem Flow.checkLoop_none (s f : Flow) (n : Nat) :
    Flow.checkLoop s f n = none ↔ ¬ Flow.agree s f := by
  fun_induction Flow.checkLoop s f n
  case case1 os ns add fst snd hne =>
    simp only [true_iff, Flow.agree_cons]
    intro h
    exact hne (h.1 fst snd rfl rfl)
  case case2 os ns add fst snd heq ih =>
    rw [ih, Flow.agree_cons]
    have heq : fst = snd := by simpa using heq
    subst heq
    simp
  case case3 os ns add a ih =>
    rw [ih, Flow.agree_cons]
    simp
  case case4 o os n ns add h1 h2 ih =>
    rw [ih, Flow.agree_cons]
    have : ∀ a b, o = FlowEntry.known a → n = FlowEntry.known b → a = b :=
      fun a b ha hb => (h1 a b ha hb).elim
    rw [and_iff_right this]
  case case5 s f add h =>
    simp only [reduceCtorEq, false_iff, Classical.not_not]
    cases s with
    | nil => exact Flow.agree_nil_left _
    | cons o os =>
      cases f with
      | nil => exact Flow.agree_nil_right _
      | cons n ns => exact (h o os n ns rfl rfl).elim

theorem Flow.checkLoop_mono (s f : Flow) (n : Nat) :
    ∀ m, Flow.checkLoop s f n = some m → n ≤ m := by
  fun_induction Flow.checkLoop s f n <;> intro m h
  case case1 => simp at h
  case case2 ih => exact ih m h
  case case3 ih => have := ih m h; omega
  case case4 ih => exact ih m h
  case case5 => simp at h; omega

theorem Flow.checkLoop_same (s f : Flow) (n : Nat) :
    Flow.checkLoop s f n = some n → f.length ≤ s.length → Flow.le f s := by
  fun_induction Flow.checkLoop s f n <;> intro h hlen
  case case1 => simp at h
  case case2 os ns add fst snd heq ih =>
    have heq : fst = snd := by simpa using heq
    rw [Flow.le_cons]
    exact ⟨fun a ha => by rw [heq, ha], ih h (by simpa using hlen)⟩
  case case3 ih =>
    have := Flow.checkLoop_mono _ _ _ _ h
    omega
  case case4 o os n ns add h1 h2 ih =>
    rw [Flow.le_cons]
    refine ⟨fun a ha => ?_, ih h (by simpa using hlen)⟩
    cases o with
    | unknown => exact (h2 a rfl ha).elim
    | known b => exact (h1 b a rfl ha).elim
  case case5 s f add hnc =>
    cases f with
    | nil => exact Flow.nil_le _
    | cons n ns =>
      cases s with
      | nil => simp at hlen
      | cons o os => exact (hnc o os n ns rfl rfl).elim

theorem Flow.merge_length (s f : Flow) : (Flow.merge s f).length = max s.length f.length := by
  fun_induction Flow.merge s f with
  | case1 l ls r rs ih =>
    simp only [List.length_cons, ih]
    omega
  | case2 rs => simp
  | case3 ls _ => simp

theorem Flow.getElem?_merge (s f : Flow) (i : Nat) :
    (Flow.merge s f)[i]? =
      match s[i]?, f[i]? with
      | some .unknown, some (.known a) => some (.known a)
      | none, y => y
      | x, _ => x := by
  fun_induction Flow.merge s f generalizing i with
  | case1 l ls r rs ih =>
    cases i with
    | zero => cases l <;> cases r <;> rfl
    | succ i => exact ih i
  | case2 rs => rfl
  | case3 ls _ =>
    cases ls[i]? with
    | none => rfl
    | some x => cases x <;> rfl

theorem Flow.le_merge_left (s f : Flow) : Flow.le s (Flow.merge s f) :=
  ⟨by rw [Flow.merge_length]; exact Nat.le_max_left .., fun i a h => by rw [Flow.getElem?_merge, h]⟩

theorem Flow.le_merge_right (s f : Flow) (hag : Flow.agree s f) : Flow.le f (Flow.merge s f) := by
  refine ⟨by rw [Flow.merge_length]; exact Nat.le_max_right .., fun i a h => ?_⟩
  rw [Flow.getElem?_merge, h]
  cases hs : s[i]? with
  | none => rfl
  | some x =>
    cases x with
    | unknown => rfl
    | known b => rw [hag i b a hs h]

theorem Flow.check_noMatch (s f : Flow) : Flow.check s f = .noMatch ↔ ¬ Flow.agree s f := by
  rw [← Flow.checkLoop_none s f 0, Flow.check]
  cases Flow.checkLoop s f 0 with
  | none => simp
  | some add =>
    simp only [reduceCtorEq, iff_false]
    split <;> simp

theorem Flow.le_of_matched {s f : Flow} (h : Flow.check s f = .matched) : Flow.le f s := by
  unfold Flow.check at h
  cases hc : Flow.checkLoop s f 0 with
  | none => simp [hc] at h
  | some add =>
    simp only [hc] at h
    split at h
    · cases h
    · have h0 : add = 0 := by omega
      exact Flow.checkLoop_same s f 0 (h0 ▸ hc) (by omega)

/-- what `FlowRegistry::lookup` leaves in the place of a stored flow `e` compatible with `f` -/
def Flow.grow (e f : Flow) : Flow := if e.check f = .matched then e else e.merge f

theorem Flow.grow_eq (e f : Flow) : e.grow f = e ∨ e.grow f = e.merge f := by
  unfold Flow.grow
  split
  · exact .inl rfl
  · exact .inr rfl

theorem Flow.le_grow (e f : Flow) : Flow.le e (e.grow f) := by
  unfold Flow.grow
  split
  · exact Flow.le_refl _
  · exact Flow.le_merge_left _ _

theorem Flow.le_grow_of_agree {e f : Flow} (h : Flow.agree e f) : Flow.le f (e.grow f) := by
  unfold Flow.grow
  split
  · next hc => exact Flow.le_of_matched hc
  · exact Flow.le_merge_right _ _ h

theorem exists_first {α} (p : α → Prop) (l : List α) :
    (∀ x ∈ l, ¬ p x) ∨ ∃ pre e post, l = pre ++ e :: post ∧ (∀ x ∈ pre, ¬ p x) ∧ p e := by
  induction l with
  | nil => exact .inl (by simp)
  | cons a l ih =>
    by_cases ha : p a
    · exact .inr ⟨[], a, l, rfl, by simp, ha⟩
    · rcases ih with h | ⟨pre, e, post, h1, h2, h3⟩
      · exact .inl (by simpa [ha] using h)
      · exact .inr ⟨a :: pre, e, post, by simp [h1], by simpa [ha] using h2, h3⟩

theorem Registry.lookupLoop_none (fl : List (Flow × Nat)) (f : Flow) (h : ∀ x ∈ fl, ¬ Flow.agree x.1 f) :
    Registry.lookupLoop fl f = (fl, none) := by
  induction fl with
  | nil => rfl
  | cons x rest ih =>
    obtain ⟨entry, id⟩ := x
    have hc := (Flow.check_noMatch entry f).2 (h (entry, id) (by simp))
    simp [Registry.lookupLoop, hc, ih (fun y hy => h y (by simp [hy]))]

theorem Registry.lookupLoop_first (pre : List (Flow × Nat)) (e : Flow × Nat) (post : List (Flow × Nat)) (f : Flow)
    (hpre : ∀ x ∈ pre, ¬ Flow.agree x.1 f) (hag : Flow.agree e.1 f) :
    Registry.lookupLoop (pre ++ e :: post) f = (pre ++ (e.1.grow f, e.2) :: post, some e.2) := by
  induction pre with
  | nil =>
    obtain ⟨entry, id⟩ := e
    cases hc : entry.check f with
    | noMatch => exact ((Flow.check_noMatch entry f).1 hc hag).elim
    | matched => simp [Registry.lookupLoop, Flow.grow, hc]
    | matchMerge => simp [Registry.lookupLoop, Flow.grow, hc]
  | cons x pre ih =>
    obtain ⟨entry, id⟩ := x
    have hc := (Flow.check_noMatch entry f).2 (hpre (entry, id) (by simp))
    simp [Registry.lookupLoop, hc, ih (fun y hy => hpre y (by simp [hy]))]

theorem Registry.lookup_none (r : Registry) (f : Flow) (hno : ∀ x ∈ r.flows, ¬ Flow.agree x.1 f) :
    r.lookup f = (r, none) := by
  simp [Registry.lookup, Registry.lookupLoop_none r.flows f hno]

theorem Registry.lookup_first (r : Registry) (f : Flow) (pre : List (Flow × Nat)) (e : Flow × Nat)
    (post : List (Flow × Nat)) (hsplit : r.flows = pre ++ e :: post)
    (hpre : ∀ x ∈ pre, ¬ Flow.agree x.1 f) (hag : Flow.agree e.1 f) :
    r.lookup f = ({ r with flows := pre ++ (e.1.grow f, e.2) :: post }, some e.2) := by
  simp [Registry.lookup, hsplit, Registry.lookupLoop_first pre e post f hpre hag]

def RegInv (r : Registry) : Prop :=
  r.flows.map (·.2) = List.range' 1 r.flows.length ∧ r.nextId = r.flows.length + 1

theorem RegInv_new : RegInv Registry.new := by simp [RegInv, Registry.new]

def Registry.le (r r' : Registry) : Prop :=
  ∀ e id, (e, id) ∈ r.flows → ∃ e', (e', id) ∈ r'.flows ∧ Flow.le e e'

theorem Registry.le_refl (r : Registry) : Registry.le r r := fun e _ h => ⟨e, h, Flow.le_refl _⟩

theorem Registry.le_trans {a b c : Registry} (h1 : Registry.le a b) (h2 : Registry.le b c) :
    Registry.le a c := by
  intro e id h
  obtain ⟨e', h', l'⟩ := h1 e id h
  obtain ⟨e'', h'', l''⟩ := h2 e' id h'
  exact ⟨e'', h'', Flow.le_trans l' l''⟩

/-- the registry part of `State::update_from_round` -/
def regStep (maxFlows : Nat) (reg : Registry) (flow : Flow) : Registry × Option Nat :=
  if reg.flows.length < maxFlows then
    let (r, id) := reg.register flow
    (r, some id)
  else reg.lookup flow

theorem regStep_none (maxFlows : Nat) (reg : Registry) (f : Flow) (hno : ∀ x ∈ reg.flows, ¬ Flow.agree x.1 f) :
    regStep maxFlows reg f =
      if reg.flows.length < maxFlows then
        ({ nextId := reg.nextId + 1, flows := reg.flows ++ [(f, reg.nextId)] }, some reg.nextId)
      else (reg, none) := by
  unfold regStep
  split <;> simp [Registry.register, reg.lookup_none f hno]

theorem regStep_first (maxFlows : Nat) (reg : Registry) (f : Flow) (pre : List (Flow × Nat)) (e : Flow × Nat)
    (post : List (Flow × Nat)) (hsplit : reg.flows = pre ++ e :: post)
    (hpre : ∀ x ∈ pre, ¬ Flow.agree x.1 f) (hag : Flow.agree e.1 f) :
    regStep maxFlows reg f = ({ reg with flows := pre ++ (e.1.grow f, e.2) :: post }, some e.2) := by
  unfold regStep
  split <;> simp [Registry.register, reg.lookup_first f pre e post hsplit hpre hag]

theorem Registry.le_replace (r : Registry) (pre post : List (Flow × Nat)) (e : Flow × Nat) (e' : Flow)
    (h : r.flows = pre ++ e :: post) (hle : Flow.le e.1 e') :
    Registry.le r { r with flows := pre ++ (e', e.2) :: post } := by
  intro x id hx
  rw [h] at hx
  simp only [List.mem_append, List.mem_cons] at hx ⊢
  rcases hx with hx | rfl | hx
  · exact ⟨x, .inl hx, Flow.le_refl _⟩
  · exact ⟨e', .inr (.inl rfl), hle⟩
  · exact ⟨x, .inr (.inr hx), Flow.le_refl _⟩

theorem RegInv.replace (r : Registry) (pre post : List (Flow × Nat)) (e : Flow × Nat) (e' : Flow)
    (h : r.flows = pre ++ e :: post) (hi : RegInv r) :
    RegInv { r with flows := pre ++ (e', e.2) :: post } := by
  unfold RegInv at hi ⊢
  rw [h] at hi
  simpa using hi

structure RegStepSpec (maxFlows : Nat) (reg : Registry) (f : Flow) (out : Registry × Option Nat) : Prop where
  inv : RegInv out.1
  bound : out.1.flows.length ≤ maxFlows
  le : Registry.le reg out.1
  length_le : reg.flows.length ≤ out.1.flows.length
  attributed : ∀ id, out.2 = some id →
    1 ≤ id ∧ id ≤ out.1.flows.length ∧ ∃ e', (e', id) ∈ out.1.flows ∧ Flow.le f e'

theorem regStep_spec (maxFlows : Nat) (reg : Registry) (f : Flow) (hi : RegInv reg)
    (hb : reg.flows.length ≤ maxFlows) : RegStepSpec maxFlows reg f (regStep maxFlows reg f) := by
  rcases exists_first (fun x => Flow.agree x.1 f) reg.flows with hno | ⟨pre, e, post, h1, h2, h3⟩
  · rw [regStep_none maxFlows reg f hno]
    split
    · -- nothing compatible and room: the next id is issued
      have hn := hi.2
      refine ⟨⟨?_, by simp [hn]⟩, by simp; omega, fun x id hx => ⟨x, by simp [hx], Flow.le_refl _⟩,
        by simp, ?_⟩
      · simp only [List.map_append, hi.1, List.map_cons, List.map_nil, List.length_append,
          List.length_cons, List.length_nil, hn]
        rw [List.range'_concat]
        simp
        omega
      · intro id hid
        cases hid
        exact ⟨by omega, by simp; omega, f, by simp, Flow.le_refl _⟩
    · -- nothing compatible and full: nothing changes
      exact ⟨hi, hb, Registry.le_refl _, Nat.le_refl _, by simp⟩
  · -- compatible with the stored flow `e`, which grows
    have hlen : (pre ++ (e.1.grow f, e.2) :: post).length = reg.flows.length := by simp [h1]
    rw [regStep_first maxFlows reg f pre e post h1 h2 h3]
    refine ⟨RegInv.replace reg pre post e _ h1 hi, hlen ▸ hb,
      Registry.le_replace reg pre post e _ h1 (Flow.le_grow _ _), Nat.le_of_eq hlen.symm, ?_⟩
    intro id hid
    cases hid
    have : e.2 ∈ reg.flows.map (·.2) := List.mem_map_of_mem (by simp [h1])
    rw [hi.1, List.mem_range'_1] at this
    exact ⟨this.1, by simp only [hlen]; omega, _, by simp, Flow.le_grow_of_agree h3⟩

end TV.Agg
