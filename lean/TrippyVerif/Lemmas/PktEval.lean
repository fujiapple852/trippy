import TrippyVerif.Lemmas.Bits
import TrippyVerif.Lemmas.Attr
/-!
What a translated packet accessor computes on a buffer that is long enough, in the terms of `Spec/Bits.lean` (a sub-word
store is `setField` given one fact per octet written), and the laws every field inherits from `getField` / `setField`
once its getter and setter are at the RFC position.
-/
namespace TV
open Spec

/-- `x = y` between `UIntN` values: both sides unfolded to bit vectors, the octet arithmetic of the code and of the
specification included, then `bv_bits` -/
macro "bits_close" : tactic => `(tactic| (
  simp only [← UInt8.toBitVec_inj, ← UInt16.toBitVec_inj, ← UInt32.toBitVec_inj,
    wordBV_one, wordBV_two, wordBV_three, cat2, cat3, cat4, be16, hi16, lo16, be32, b32_0, b32_1, b32_2, b32_3, replaceBV]
  bv_bits))

attribute [pkt_eval] R.bind_ok R.pure_eq R.ok.injEq wrN List.take_zero List.set_set octet_set_ne octet_set_eq

@[pkt_eval] theorem rd_of_lt {b : Buf} {i : Nat} (h : i < b.length) : rd b i = .ok (octet b i) := by
  simp [rd, octet, h]

@[pkt_eval] theorem wr_of_lt {b : Buf} {i : Nat} (v : UInt8) (h : i < b.length) : wr b i v = .ok (b.set i v) := by
  simp [wr, h]

/-- unrolls the specification `(b.drop k).take n` of an address getter into the `n` octets the code reads one by one -/
@[pkt_eval] theorem take_succ_drop {b : Buf} {k : Nat} (n : Nat) (h : k < b.length) :
    (b.drop k).take (n + 1) = octet b k :: (b.drop (k + 1)).take n := by
  rw [List.drop_eq_getElem_cons h, List.take_succ_cons]
  simp [octet, h]

/-- side conditions `i < (b.set ..).length` of `rd_of_lt` / `wr_of_lt`, from `h : m ≤ b.length` in the context -/
macro "buf_bound" : tactic => `(tactic| ((try simp only [List.length_set]); omega))

theorem wrN_append (pre mid post vs : List UInt8) (h : mid.length = vs.length) :
    wrN (pre ++ mid ++ post) pre.length vs = .ok (pre ++ vs ++ post) := by
  induction vs generalizing pre mid with
  | nil =>
    rw [List.length_nil, List.length_eq_zero_iff] at h
    rw [h, wrN]
  | cons v vs ih =>
    obtain ⟨m, mid, rfl⟩ := List.exists_cons_of_length_eq_add_one h
    -- the first octet of `mid` is overwritten, the rest is the induction hypothesis one position further
    have hw : wr (pre ++ m :: mid ++ post) pre.length v = .ok (pre ++ [v] ++ mid ++ post) := by
      simp [wr]
    have := ih (pre ++ [v]) mid (by simpa using h)
    rw [List.length_append, List.length_singleton] at this
    rw [wrN, hw, R.bind_ok, this]
    simp

/-- `wrN` is `set_bytes` of the source -/
theorem wrN_eq_splice (b : Buf) (off : Nat) (vs : List UInt8) (h : off + vs.length ≤ b.length) :
    wrN b off vs = .ok (b.take off ++ vs ++ b.drop (off + vs.length)) := by
  have := wrN_append (b.take off) ((b.drop off).take vs.length) (b.drop (off + vs.length)) vs
    (by simp; omega)
  rwa [List.length_take_of_le (by omega), List.append_assoc, ← List.drop_drop, List.take_append_drop,
    List.take_append_drop, List.drop_drop] at this

theorem b32_0_eq (v : UInt32) : b32_0 v = UInt8.ofBitVec (v.toBitVec.extractLsb' 24 8) := by bits_close
theorem b32_1_eq (v : UInt32) : b32_1 v = UInt8.ofBitVec (v.toBitVec.extractLsb' 16 8) := by bits_close
theorem b32_2_eq (v : UInt32) : b32_2 v = UInt8.ofBitVec (v.toBitVec.extractLsb' 8 8) := by bits_close
theorem b32_3_eq (v : UInt32) : b32_3 v = UInt8.ofBitVec (v.toBitVec.extractLsb' 0 8) := by bits_close

theorem extractLsb'_extractLsb' {N : Nat} (W : BitVec N) (a l c l2 : Nat) (h : c + l2 ≤ l) :
    (W.extractLsb' a l).extractLsb' c l2 = W.extractLsb' (a + c) l2 := by
  apply BitVec.eq_of_getLsbD_eq
  intro i hi
  simp only [BitVec.getLsbD_extractLsb']
  have h1 : c + i < l := by omega
  simp [hi, h1, Nat.add_assoc]

namespace Spec

theorem setField_one_of {b : Buf} {k sh w : Nat} {v : BitVec w} {x : UInt8}
    (hx : x = UInt8.ofBitVec ((replaceBV (wordBV b k 1) sh w v).extractLsb' 0 8)) :
    b.set k x = setField b k 1 sh w v := by
  rw [hx, setField]
  rfl

theorem setField_two_of {b : Buf} {k sh w : Nat} {v : BitVec w} {x y : UInt8}
    (hx : x = UInt8.ofBitVec ((replaceBV (wordBV b k 2) sh w v).extractLsb' 8 8))
    (hy : y = UInt8.ofBitVec ((replaceBV (wordBV b k 2) sh w v).extractLsb' 0 8)) :
    (b.set k x).set (k + 1) y = setField b k 2 sh w v := by
  rw [hx, hy, setField]
  simp [putBV, extractLsb'_extractLsb']

theorem setField_three_of {b : Buf} {k sh w : Nat} {v : BitVec w} {x y z : UInt8}
    (hx : x = UInt8.ofBitVec ((replaceBV (wordBV b k 3) sh w v).extractLsb' 16 8))
    (hy : y = UInt8.ofBitVec ((replaceBV (wordBV b k 3) sh w v).extractLsb' 8 8))
    (hz : z = UInt8.ofBitVec ((replaceBV (wordBV b k 3) sh w v).extractLsb' 0 8)) :
    ((b.set k x).set (k + 1) y).set (k + 2) z = setField b k 3 sh w v := by
  rw [hx, hy, hz, setField]
  simp [putBV, extractLsb'_extractLsb']

/-! Whole-word fields: the closed forms rewrite the specification side towards the code (`getField .. ↦ be16 ..`);
`↓` because `pkt_eval` unfolds `getField` and would otherwise do so inside first. -/

attribute [pkt_eval] getField

@[pkt_word ↓] theorem getField_u8 (b : Buf) (k : Nat) :
    UInt8.ofBitVec ((getField b k 1 0 8).setWidth 8) = octet b k := by
  simp [getField, wordBV_one]

@[pkt_word ↓] theorem getField_u16 (b : Buf) (k : Nat) :
    UInt16.ofBitVec ((getField b k 2 0 16).setWidth 16) = be16 (octet b k) (octet b (k + 1)) := by
  rw [getField, wordBV_two]
  bits_close

@[pkt_word ↓] theorem getField_u32 (b : Buf) (k : Nat) :
    UInt32.ofBitVec ((getField b k 4 0 32).setWidth 32)
      = be32 (octet b k) (octet b (k + 1)) (octet b (k + 2)) (octet b (k + 3)) := by
  rw [getField, wordBV_four]
  bits_close

@[pkt_word ↓] theorem setField_u8 (b : Buf) (k : Nat) (v : UInt8) :
    setField b k 1 0 8 (v.toBitVec.setWidth 8) = b.set k v :=
  (setField_one_of (by bits_close)).symm

@[pkt_word ↓] theorem setField_u16 (b : Buf) (k : Nat) (v : UInt16) :
    setField b k 2 0 16 (v.toBitVec.setWidth 16) = (b.set k (hi16 v)).set (k + 1) (lo16 v) :=
  (setField_two_of (by bits_close) (by bits_close)).symm

@[pkt_word ↓] theorem setField_u32 (b : Buf) (k : Nat) (v : UInt32) :
    setField b k 4 0 32 (v.toBitVec.setWidth 32)
      = (((b.set k (b32_0 v)).set (k + 1) (b32_1 v)).set (k + 2) (b32_2 v)).set (k + 3) (b32_3 v) := by
  rw [setField, replaceBV_full]
  simp [putBV, extractLsb'_extractLsb', b32_0_eq, b32_1_eq, b32_2_eq, b32_3_eq]

theorem field_laws {α β : Type} {get : Buf → R α} {set : Buf → β → R Buf} {m k n sh w : Nat}
    {dec : BitVec w → α} {enc : β → BitVec w}
    (hget : ∀ b, m ≤ b.length → get b = .ok (dec (getField b k n sh w)))
    (hset : ∀ b v, m ≤ b.length → set b v = .ok (setField b k n sh w (enc v)))
    (b : Buf) (v : β) (h : m ≤ b.length) (hk : k + n ≤ m := by omega) (hw : sh + w ≤ 8 * n := by omega) :
    ∃ b', set b v = .ok b' ∧ b'.length = b.length ∧ get b' = .ok (dec (enc v)) ∧
      ∀ j, (j < 8 * (k + n) - sh - w ∨ 8 * (k + n) - sh ≤ j) → bitAt b' j = bitAt b j := by
  refine ⟨_, hset b v h, length_setField .., ?_, fun j hj => ?_⟩
  · rw [hget _ (by rwa [length_setField]), getField_setField _ _ _ _ _ _ (by omega) hw]
  · exact bitAt_setField_outside _ _ _ _ _ _ _ (by omega) hw hj

theorem bytes_laws {get : Buf → R (List UInt8)} {set : Buf → List UInt8 → R Buf} {m k n : Nat}
    (hget : ∀ b, m ≤ b.length → get b = .ok ((b.drop k).take n))
    (hset : ∀ b v, m ≤ b.length → v.length = n → set b v = .ok (b.take k ++ v ++ b.drop (k + n)))
    (b : Buf) (v : List UInt8) (h : m ≤ b.length) (hv : v.length = n) (hk : k + n ≤ m := by omega) :
    ∃ b', set b v = .ok b' ∧ b'.length = b.length ∧ get b' = .ok v ∧
      b'.take k = b.take k ∧ b'.drop (k + n) = b.drop (k + n) := by
  have hpre : (b.take k).length = k := List.length_take_of_le (by omega)
  have hlen : (b.take k ++ v ++ b.drop (k + n)).length = b.length := by
    simp only [List.length_append, hpre, hv, List.length_drop]
    omega
  refine ⟨_, hset b v h hv, hlen, ?_, ?_, ?_⟩
  · rw [hget _ (by omega), List.append_assoc, List.drop_left' hpre, List.take_left' hv]
  · rw [List.append_assoc, List.take_left' hpre]
  · exact List.drop_left' (by rw [List.length_append, hpre, hv])

end Spec
end TV
