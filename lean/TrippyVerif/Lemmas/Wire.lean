import TrippyVerif.Model.Wire
/-!
The wire layer, common part: octets and big-endian words, the slice accessors of the packet views, well-formed
configurations and probes (`AddrOk`, `SizeOk`, `ProbeOk`) and the size constants.
-/
namespace TV.Wire

theorem hi_lo {n : Nat} (h : n < 65536) : beN (hi n) (lo n) = n := by
  simp only [beN, hi, lo, UInt8.toNat_ofNat']
  omega

theorem hi_toNat (n : Nat) (h : n < 65536) : (hi n).toNat = n / 256 := by
  simp only [hi, UInt8.toNat_ofNat']
  omega

theorem lo_toNat (n : Nat) : (lo n).toNat = n % 256 := by
  simp only [lo, UInt8.toNat_ofNat']
  omega

theorem beN_lt (a b : UInt8) : beN a b < 65536 := by
  have := UInt8.toNat_lt a
  have := UInt8.toNat_lt b
  simp only [beN]
  omega

theorem rd_ok (b : Buf) (i : Nat) (h : i < b.length) : rd b i = .ok (b.getD i 0) := by
  simp [rd, List.getD, h]

theorem rd16_ok (b : Buf) (off : Nat) (h : off + 1 < b.length) :
    rd16 b off = .ok (beN (b.getD off 0) (b.getD (off + 1) 0)) := by
  simp [rd16, rd_ok b off (by omega), rd_ok b (off + 1) h]

theorem rdSlice_ok (b : Buf) (off n : Nat) (h : off + n ≤ b.length) :
    rdSlice b off n = .ok ((b.drop off).take n) := by
  simp [rdSlice, h]

theorem getD_append_left {H T : Buf} (i : Nat) (h : i < H.length) :
    (H ++ T).getD i 0 = H.getD i 0 := by
  simp [List.getD, List.getElem?_append_left h]

theorem rd_append_left {H T : Buf} (i : Nat) (h : i < H.length) :
    rd (H ++ T) i = .ok (H.getD i 0) := by
  rw [rd_ok _ i (by rw [List.length_append]; omega), getD_append_left i h]

theorem rd16_append_left {H T : Buf} (off : Nat) (h : off + 1 < H.length) :
    rd16 (H ++ T) off = .ok (beN (H.getD off 0) (H.getD (off + 1) 0)) := by
  rw [rd16_ok _ off (by rw [List.length_append]; omega), getD_append_left off (by omega),
    getD_append_left (off + 1) h]

theorem rdSlice_append_left {H T : Buf} (off n : Nat) (h : off + n = H.length) :
    rdSlice (H ++ T) off n = .ok (H.drop off) := by
  rw [rdSlice_ok _ off n (by rw [List.length_append]; omega),
    List.drop_append_of_le_length (by omega),
    List.take_append_of_le_length (by rw [List.length_drop]; omega),
    List.take_of_length_le (by rw [List.length_drop]; omega)]

theorem len4 {l : Buf} (h : l.length = 4) : ∃ a b c d, l = [a, b, c, d] := by
  match l, h with
  | [a, b, c, d], _ => exact ⟨a, b, c, d, rfl⟩

theorem isPrefixOf_iff_take (m t : Buf) : m.isPrefixOf t = true ↔ t.take m.length = m := by
  rw [List.isPrefixOf_iff_prefix, List.prefix_iff_eq_take]
  exact eq_comm

theorem foldl_addr_inj : ∀ (l1 l2 : Buf), l1.length = l2.length → ∀ a1 a2 : Nat,
    l1.foldl (fun acc x => acc * 256 + x.toNat) a1 = l2.foldl (fun acc x => acc * 256 + x.toNat) a2 →
    a1 = a2 ∧ l1 = l2 := by
  intro l1
  induction l1 with
  | nil =>
    intro l2 hl a1 a2 h
    cases l2 with
    | nil => exact ⟨h, rfl⟩
    | cons y ys => simp at hl
  | cons x xs ih =>
    intro l2 hl a1 a2 h
    cases l2 with
    | nil => simp at hl
    | cons y ys =>
      simp only [List.length_cons, Nat.add_right_cancel_iff] at hl
      simp only [List.foldl_cons] at h
      obtain ⟨h1, h2⟩ := ih ys hl _ _ h
      have hx := UInt8.toNat_lt x
      have hy := UInt8.toNat_lt y
      have hxy : x.toNat = y.toNat := by omega
      refine ⟨by omega, ?_⟩
      rw [h2, UInt8.toNat_inj.mp hxy]

theorem addrNat_inj {a b : Buf} (hl : a.length = b.length) (h : addrNat a = addrNat b) : a = b :=
  (foldl_addr_inj a b hl 0 0 h).2

theorem map_np {α β : Type} {x : R α} {f : α → β} (hx : x ≠ .panic) : (f <$> x) ≠ .panic := by
  cases x with
  | ok a => simp
  | err e => simp
  | panic => exact absurd rfl hx

theorem ipv4OptionsLength_ok (b : Buf) (h : 0 < b.length) :
    ipv4OptionsLength b = .ok ((b.getD 0 0).toNat % 16 * 4 - 20) := by
  simp [ipv4OptionsLength, rd_ok b 0 h]

theorem ipv4Payload_ok (b : Buf) (h : 0 < b.length) :
    ipv4Payload b = .ok (b.drop (min (20 + ((b.getD 0 0).toNat % 16 * 4 - 20)) b.length)) := by
  simp [ipv4Payload, ipv4OptionsLength_ok b h]

theorem ipv4Payload_ihl5 (b : Buf) (h0 : b.getD 0 0 = 0x45) (h : 20 ≤ b.length) :
    ipv4Payload b = .ok (b.drop 20) := by
  -- the ascription lets the kernel evaluate the options length of `0x45` to 0
  rw [ipv4Payload_ok b (by omega), h0,
    show min (20 + ((0x45 : UInt8).toNat % 16 * 4 - 20)) b.length = 20 from
      (Nat.min_eq_left h : min (20 + 0) b.length = 20)]

theorem ipv4OptionsRaw_ok (b : Buf) (h : 20 ≤ b.length) :
    ipv4OptionsRaw b =
      .ok ((b.take (min (20 + ((b.getD 0 0).toNat % 16 * 4 - 20)) b.length)).drop 20) := by
  have : ¬ min (20 + ((b.getD 0 0).toNat % 16 * 4 - 20)) b.length < 20 := by omega
  simp only [ipv4OptionsRaw, ipv4OptionsLength_ok b (by omega), R.bind_ok, ip4Hdr, if_neg this]
  rfl

theorem ipv6Payload_ok (b : Buf) (h : 6 ≤ b.length) :
    ipv6Payload b =
      .ok (if b.length ≤ 40 then []
           else (b.take (min (40 + beN (b.getD 4 0) (b.getD 5 0)) b.length)).drop 40) := by
  simp only [ipv6Payload, rd16_ok b 4 (by omega)]
  split <;> simp

theorem udpPayload_ok (b : Buf) (h : 8 ≤ b.length) : udpPayload b = .ok (b.drop 8) := by
  have : ¬ b.length < 8 := by omega
  simp [udpPayload, this]

theorem echoPayload_ok (b : Buf) (h : 8 ≤ b.length) : echoPayload b = .ok (b.drop 8) :=
  udpPayload_ok b h

theorem tcpOptionsLength_ok (b : Buf) (h : 12 < b.length) :
    tcpOptionsLength b =
      .ok (if (b.getD 12 0).toNat / 16 > 5 then (b.getD 12 0).toNat / 16 * 4 - 20 else 0) := by
  simp [tcpOptionsLength, rd_ok b 12 h]

theorem tcpOptionsRaw_ne_panic (b : Buf) (h : 20 ≤ b.length) : tcpOptionsRaw b ≠ .panic := by
  simp only [tcpOptionsRaw, tcpOptionsLength_ok b (by omega), R.bind_ok, tcpHdr]
  rw [if_neg (by omega)]
  simp

theorem tcpPayload_ne_panic (b : Buf) (h : 20 ≤ b.length) : tcpPayload b ≠ .panic := by
  simp only [tcpPayload, tcpOptionsLength_ok b (by omega), R.bind_ok]
  split <;> split <;> simp

def ChanCfg.AddrOk (c : ChanCfg) : Prop :=
  if c.v6 then c.src.length = 16 ∧ c.dst.length = 16 else c.src.length = 4 ∧ c.dst.length = 4

instance (c : ChanCfg) : Decidable c.AddrOk := by
  unfold ChanCfg.AddrOk; infer_instance

theorem addr4 (c : ChanCfg) (hc : c.AddrOk) (hv : c.v6 = false) :
    c.src.length = 4 ∧ c.dst.length = 4 := by
  simpa [ChanCfg.AddrOk, hv] using hc

theorem addr6 (c : ChanCfg) (hc : c.AddrOk) (hv : c.v6 = true) :
    c.src.length = 16 ∧ c.dst.length = 16 := by
  simpa [ChanCfg.AddrOk, hv] using hc

theorem paySize (c : ChanCfg) :
    c.packetSize - l4Hdr - ipHdr c = c.packetSize - (if c.v6 then 48 else 28) := by
  unfold ipHdr
  split
  · simp only [l4Hdr, ip6Hdr]
    omega
  · simp only [l4Hdr, ip4Hdr]
    omega

/-- the size constants of the two families (`net/ipv4.rs`, `net/ipv6.rs`, `channel.rs`) as numbers -/
structure Sizes (c : ChanCfg) : Prop where
  icmpMin : minIcmp c = if c.v6 then 48 else 28
  udpMin : minUdp c = if c.v6 then 48 else 28
  icmpPayload : maxIcmpPayload c = if c.v6 then 976 else 996
  icmpBuf : maxIcmpBuf c = maxIcmpPayload c + 8
  udpPayload : maxUdpPayload c = if c.v6 then 976 else 996
  udpBuf : maxUdpBuf c = maxUdpPayload c + 8
  packet : MAX_PACKET_SIZE = 1024

theorem sizes (c : ChanCfg) : Sizes c where
  icmpMin := by unfold minIcmp; cases c.v6 <;> rfl
  udpMin := by unfold minUdp; cases c.v6 <;> rfl
  icmpPayload := by unfold maxIcmpPayload; cases c.v6 <;> rfl
  icmpBuf := by unfold maxIcmpBuf maxIcmpPayload; cases c.v6 <;> rfl
  udpPayload := by unfold maxUdpPayload; cases c.v6 <;> rfl
  udpBuf := by unfold maxUdpBuf maxUdpPayload; cases c.v6 <;> rfl
  packet := rfl

theorem magic_length : Consts.net6_MAGIC.length = 6 := rfl

def SizeOk (c : ChanCfg) : Prop := (if c.v6 then 48 else 28) ≤ c.packetSize ∧ c.packetSize ≤ 1024

theorem sizeOk_iff {c : ChanCfg} :
    SizeOk c ↔ (if c.v6 then 48 else 28) ≤ c.packetSize ∧ c.packetSize ≤ 1024 := Iff.rfl

theorem sizeOk_v4 {c : ChanCfg} (hv : c.v6 = false) (hsz : 28 ≤ c.packetSize ∧ c.packetSize ≤ 1024) :
    SizeOk c := by
  simpa [SizeOk, hv] using hsz

theorem sizeOk_v6 {c : ChanCfg} (hv : c.v6 = true) (hsz : 48 ≤ c.packetSize ∧ c.packetSize ≤ 1024) :
    SizeOk c := by
  simpa [SizeOk, hv] using hsz

theorem SizeOk.le {c : ChanCfg} (h : SizeOk c) : c.packetSize ≤ 1024 := h.2

theorem sizeOk_iff_icmp (c : ChanCfg) :
    SizeOk c ↔ minIcmp c ≤ c.packetSize ∧ c.packetSize ≤ MAX_PACKET_SIZE := by
  rw [(sizes c).icmpMin, (sizes c).packet]
  rfl

theorem sizeOk_iff_udp (c : ChanCfg) :
    SizeOk c ↔ minUdp c ≤ c.packetSize ∧ c.packetSize ≤ MAX_PACKET_SIZE := by
  rw [(sizes c).udpMin, (sizes c).packet]
  rfl

/-- 976 / 996: the payload buffer of the family (`Sizes.icmpPayload`, `Sizes.udpPayload`) -/
theorem SizeOk.payload_le {c : ChanCfg} (h : SizeOk c) :
    c.packetSize - l4Hdr - ipHdr c ≤ if c.v6 then 976 else 996 := by
  have := h.le
  rw [paySize]
  split <;> omega

/-- the probe's fields are machine values (`u16` / `u8`) -/
def ProbeOk (p : Strat.Probe) : Prop :=
  p.seq < 65536 ∧ p.ident < 65536 ∧ p.srcPort < 65536 ∧ p.destPort < 65536 ∧ p.ttl ≤ 255

theorem ProbeOk.seq {p : Strat.Probe} (h : ProbeOk p) : p.seq < 65536 := h.1

theorem ProbeOk.ident {p : Strat.Probe} (h : ProbeOk p) : p.ident < 65536 := h.2.1

theorem ProbeOk.srcPort {p : Strat.Probe} (h : ProbeOk p) : p.srcPort < 65536 := h.2.2.1

theorem ProbeOk.destPort {p : Strat.Probe} (h : ProbeOk p) : p.destPort < 65536 := h.2.2.2.1

theorem ProbeOk.ttl {p : Strat.Probe} (h : ProbeOk p) : p.ttl ≤ 255 := h.2.2.2.2

end TV.Wire
