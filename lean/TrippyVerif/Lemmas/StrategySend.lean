import TrippyVerif.Lemmas.StrategyInv
import TrippyVerif.Lemmas.R
/-!
The send step: the guard (`canSend_iff`), the send loop with its one loop invariant `Sending` and the one induction
`tcpLoop_spec`, and what `send_request` does whether or not the guard lets it send (`Sent`, `sendRequest_spec`).
-/
namespace TV.List

theorem forall_getElem_append {α} {l1 l2 : List α} {P : Nat → α → Prop}
    (h1 : ∀ k (h : k < l1.length), P k l1[k]) (h2 : ∀ k (h : k < l2.length), P (l1.length + k) l2[k]) :
    ∀ k (h : k < (l1 ++ l2).length), P k (l1 ++ l2)[k] := by
  intro k hk
  by_cases hk' : k < l1.length
  · rw [List.getElem_append_left hk']
    exact h1 k hk'
  · rw [List.length_append] at hk
    rw [List.getElem_append_right (by omega)]
    have := h2 (k - l1.length) (by omega)
    rwa [show l1.length + (k - l1.length) = k by omega] at this

end TV.List

namespace TV.Strat

def slotOf : Probe × SendOutcome → Slot
  | (p, .ok) => .awaited p
  | (p, .probeFailed) => .failed p
  | (_, .addrInUse) => .skipped
  | (p, .fatal) => .awaited p

theorem slotOf_addr (x : Probe × SendOutcome) (h : x.2 = .addrInUse) : slotOf x = .skipped := by
  obtain ⟨q, o⟩ := x
  simp at h
  subst h
  rfl

def LogShape (lg : List (Probe × SendOutcome)) : Prop :=
  ∃ pre last, lg = pre ++ [last] ∧ (∀ x ∈ pre, x.2 = .addrInUse) ∧
    (last.2 = .ok ∨ last.2 = .probeFailed)

theorem LogShape.no_fatal {lg : List (Probe × SendOutcome)} (h : LogShape lg) :
    ∀ x ∈ lg, x.2 ≠ .fatal := by
  obtain ⟨pre, last, rfl, hpre, hlast⟩ := h
  intro x hx
  rcases List.mem_append.mp hx with hx | hx
  · rw [hpre x hx]
    simp
  · simp at hx
    subst hx
    rcases hlast with e | e
    · rw [e]
      simp
    · rw [e]
      simp

/-- `canSendR` without the machine arithmetic -/
def canSend (c : Cfg) (s : TS) : Bool :=
  !s.targetFound && decide (s.ttl ≤ c.maxTtl) &&
    (match s.targetTtl with
     | some t => decide (s.ttl ≤ t)
     | none => decide (s.ttl - s.maxRecvTtl.getD (c.firstTtl - 1) ≤ c.maxInflight))

theorem canSend_iff {c : Cfg} {s : TS} :
    canSend c s = true ↔ s.targetFound = false ∧ s.ttl ≤ c.maxTtl ∧
      (∀ t, s.targetTtl = some t → s.ttl ≤ t) ∧
      (s.targetTtl = none → s.ttl - s.maxRecvTtl.getD (c.firstTtl - 1) ≤ c.maxInflight) := by
  unfold canSend
  cases s.targetTtl <;> simp [and_assoc]

theorem canSendR_eq {c : Cfg} {s : TS} (hc : CfgOk c) (h : Inv c s) : canSendR c s = .ok (canSend c s) := by
  have hf1 := hc.first_ge
  have httl := h.ttl_ge
  have hbase : s.maxRecvTtl.getD (c.firstTtl - 1) ≤ s.ttl := by
    cases hm : s.maxRecvTtl with
    | none =>
      show c.firstTtl - 1 ≤ s.ttl
      omega
    | some m =>
      have := h.maxrecv m hm
      show m ≤ s.ttl
      omega
  simp only [canSendR, subU, hf1, if_true, R.bind_ok, canSend]
  cases s.targetTtl with
  | some t => simp
  | none => simp [hbase]

/-- the fields `send_request` never touches -/
structure SameRound (s s1 : TS) : Prop where
  roundSeq : s1.roundSeq = s.roundSeq
  round : s1.round = s.round
  roundStart : s1.roundStart = s.roundStart
  targetFound : s1.targetFound = s.targetFound
  maxRecvTtl : s1.maxRecvTtl = s.maxRecvTtl
  targetTtl : s1.targetTtl = s.targetTtl
  recvTime : s1.recvTime = s.recvTime
  now : s1.now = s.now

/-- `log`: the `send_probe` calls of one `send_request`, none iff its guard said no.  The buffer grows by their slots,
in order, from `s`'s first free slot. -/
structure Sent (c : Cfg) (s s' : TS) (log : List (Probe × SendOutcome)) : Prop extends SameRound s s' where
  guard : log ≠ [] ↔ canSend c s = true
  ttl : s'.ttl = if log = [] then s.ttl else s.ttl + 1
  seq : s'.sequence = s.sequence + log.length
  each : ∀ x ∈ log, x.1.ttl = s.ttl ∧ x.1.round = s.round ∧ x.1.sent = s.now
  seqs : log.map (fun x => x.1.seq) = List.range' s.sequence log.length
  low : ∀ k, k < s.count → s'.buffer[k]? = s.buffer[k]?
  slots : ∀ k (h : k < log.length), s'.buffer[s.count + k]? = some (slotOf log[k])
  shape : log ≠ [] → LogShape log

theorem Sent.idle {c : Cfg} {s : TS} (hg : canSend c s = false) : Sent c s s [] where
  toSameRound := ⟨rfl, rfl, rfl, rfl, rfl, rfl, rfl, rfl⟩
  guard := by simp [hg]
  ttl := rfl
  seq := rfl
  each := by simp
  seqs := rfl
  low := fun _ _ => rfl
  slots := fun k hk => absurd hk (Nat.not_lt_zero k)
  shape := fun h => absurd rfl h

theorem Sent.seq_mem {c : Cfg} {s s' : TS} {log : List (Probe × SendOutcome)} (h : Sent c s s' log)
    {x : Probe × SendOutcome} (hx : x ∈ log) : s.sequence ≤ x.1.seq ∧ x.1.seq < s'.sequence := by
  have hmem : x.1.seq ∈ log.map (fun x => x.1.seq) := List.mem_map_of_mem hx
  rw [h.seqs, List.mem_range'_1] at hmem
  rw [h.seq]
  exact hmem

theorem Sent.no_fatal {c : Cfg} {s s' : TS} {log : List (Probe × SendOutcome)} (h : Sent c s s' log) :
    ∀ x ∈ log, x.2 ≠ .fatal :=
  fun x hx => (h.shape (List.ne_nil_of_mem hx)).no_fatal x hx

/-- the loop invariant of a sending iteration started in `s0`, `p` about to be handed to `send_probe`.  `each` and
`seqs` speak of the log as it will be once that call has returned, whatever its outcome `o`; `ge0` is what
`Sending.count` needs of `s0`. -/
structure Sending (c : Cfg) (s0 s : TS) (p : Probe) (log : List (Probe × SendOutcome)) : Prop where
  alloc : Alloc c s p
  can : canSend c s0 = true
  ge0 : s0.roundSeq ≤ s0.sequence
  ttl : s.ttl = s0.ttl + 1
  seq : s.sequence = s0.sequence + log.length + 1
  same : SameRound s0 s
  reissued : ∀ x ∈ log, x.2 = .addrInUse
  each : ∀ o, ∀ x ∈ log ++ [(p, o)], x.1.ttl = s0.ttl ∧ x.1.round = s0.round ∧ x.1.sent = s0.now
  seqs : ∀ o, (log ++ [(p, o)]).map (fun x : Probe × SendOutcome => x.1.seq) =
    List.range' s0.sequence (log.length + 1)
  low : ∀ k, k < s0.count → s.buffer[k]? = s0.buffer[k]?
  skipped : ∀ k, k < log.length → s.buffer[s0.count + k]? = some .skipped

section
variable {c : Cfg} {s0 s : TS} {p : Probe} {log : List (Probe × SendOutcome)}

theorem Sending.count (h : Sending c s0 s p log) : s.count = s0.count + log.length + 1 :=
  TS.count_add (n := log.length + 1) h.ge0 h.same.roundSeq h.seq

theorem Sending.start (h : Inv c s0) (hcan : canSend c s0 = true) (hcap : s0.count < BUFFER_SIZE)
    (httl : s0.ttl ≤ 254) (hp : Issued c s0 s0.ttl s0.now p) : Sending c s0 (afterNext s0 p) p [] where
  alloc := alloc_afterNext h hcap httl hp
  can := hcan
  ge0 := h.seq_ge
  ttl := rfl
  seq := rfl
  same := ⟨rfl, rfl, rfl, rfl, rfl, rfl, rfl, rfl⟩
  reissued := by simp
  each := by
    intro o x hx
    simp only [List.nil_append, List.mem_singleton] at hx
    subst hx
    exact ⟨hp.ttl, hp.round, hp.sent⟩
  seqs := by
    intro o
    simp [hp.seq]
  low := by
    intro k hk
    rw [afterNext_buffer, List.getElem?_set_ne (by omega)]
  skipped := by simp

theorem Sending.reissue {p' : Probe} (h : Sending c s0 s p log) (htcp : c.proto = .tcp)
    (hcap : s.count < BUFFER_SIZE) (hp : Issued c s (s.ttl - 1) s.now p') :
    Sending c s0 (afterReissue s p') p' (log ++ [(p, .addrInUse)]) where
  alloc := alloc_afterReissue h.alloc hcap htcp hp
  can := h.can
  ge0 := h.ge0
  ttl := h.ttl
  seq := by
    have := h.seq
    rw [afterReissue_sequence, List.length_append, List.length_singleton]
    omega
  -- `afterReissue` touches none of the fields of `SameRound`
  same := { h.same with }
  reissued := by
    intro x hx
    rcases List.mem_append.mp hx with hx | hx
    · exact h.reissued x hx
    · simp at hx
      subst hx
      rfl
  each := by
    intro o x hx
    rcases List.mem_append.mp hx with hx | hx
    · exact h.each _ x hx
    · simp only [List.mem_singleton] at hx
      subst hx
      have := h.ttl
      exact ⟨by simp only [hp.ttl]; omega, hp.round.trans h.same.round, hp.sent.trans h.same.now⟩
  seqs := by
    intro o
    rw [List.map_append, h.seqs, List.length_append, List.length_singleton,
      List.range'_concat (n := log.length + 1)]
    simp only [List.map_cons, List.map_nil, hp.seq, h.seq, Nat.one_mul, Nat.add_assoc]
  low := by
    intro k hk
    have := h.count
    rw [afterReissue_buffer, List.getElem?_set_ne (by omega), List.getElem?_set_ne (by omega)]
    exact h.low k hk
  skipped := by
    intro k hk
    have hcnt := h.count
    have hl := h.alloc.inv.count_lt_length hcap
    rw [List.length_append, List.length_singleton] at hk
    rw [afterReissue_buffer]
    by_cases hk' : k < log.length
    · rw [List.getElem?_set_ne (by omega), List.getElem?_set_ne (by omega)]
      exact h.skipped k hk'
    · have hk2 : k = log.length := by omega
      subst hk2
      have : s0.count + log.length = s.count - 1 := by omega
      rw [this, List.getElem?_set_ne (by omega), List.getElem?_set_self (by omega)]

theorem Sending.finish_buf (h : Sending c s0 s p log) {o : SendOutcome}
    (ho : o = .ok ∨ o = .probeFailed) (b : List Slot)
    (hbuf : ∀ k, k ≠ s.count - 1 → b[k]? = s.buffer[k]?)
    (hslot : b[s.count - 1]? = some (slotOf (p, o))) :
    Sent c s0 { s with buffer := b } (log ++ [(p, o)]) where
  toSameRound := { h.same with }
  guard := by simp [h.can]
  ttl := by simp [h.ttl]
  seq := by
    have := h.seq
    rw [List.length_append, List.length_singleton]
    omega
  each := h.each o
  seqs := by simpa using h.seqs o
  shape := fun _ => ⟨log, (p, o), rfl, h.reissued, ho⟩
  low := by
    intro k hk
    have := h.count
    show b[k]? = _
    rw [hbuf k (by omega)]
    exact h.low k hk
  slots := by
    have hidx : s.count - 1 = s0.count + log.length := by
      have := h.count
      omega
    refine List.forall_getElem_append (P := fun k x => b[s0.count + k]? = some (slotOf x)) (fun k hk => ?_)
      (fun k hk => ?_)
    · rw [slotOf_addr _ (h.reissued _ (List.getElem_mem hk)), hbuf _ (by omega)]
      exact h.skipped k hk
    · obtain rfl : k = 0 := by simpa using hk
      rw [Nat.add_zero, ← hidx, hslot]
      rfl

theorem Sending.finish_ok (h : Sending c s0 s p log) : Sent c s0 s (log ++ [(p, .ok)]) :=
  h.finish_buf (Or.inl rfl) s.buffer (fun _ _ => rfl) h.alloc.slot

theorem Sending.finish (h : Sending c s0 s p log) {o : SendOutcome} (ho : o = .ok ∨ o = .probeFailed) :
    ∃ s1, doSend s o = .ok (s1, none) ∧ Inv c s1 ∧ Sent c s0 s1 (log ++ [(p, o)]) := by
  rcases ho with rfl | rfl
  · exact ⟨s, rfl, h.alloc.inv, h.finish_ok⟩
  · refine ⟨afterFail s p, by simp [doSend, failProbe_spec h.alloc],
      inv_set_slot h.alloc.inv h.alloc.slot (fun _ hq => hq), h.finish_buf (Or.inr rfl) _ (fun k hk => ?_) ?_⟩
    · rw [List.getElem?_set_ne (Ne.symm hk)]
    · rw [List.getElem?_set_self h.alloc.last_lt]
      rfl

end

theorem roundHasCapacity_eq {c : Cfg} {s : TS} (h : Inv c s) :
    roundHasCapacity s = .ok (decide (s.count < BUFFER_SIZE)) := by
  simp only [roundHasCapacity, h.subU_count, R.bind_ok]

theorem tcpLoop_spec {c : Cfg} (hc : CfgOk c) (htcp : c.proto = .tcp) (s0 : TS) :
    ∀ (os : List SendOutcome) (s : TS) (p : Probe) (log : List (Probe × SendOutcome)),
      Sending c s0 s p log →
      tcpLoop c s p log os ≠ .panic ∧
      ∀ s' lg, tcpLoop c s p log os = .ok (s', lg) → Inv c s' ∧ Sent c s0 s' lg := by
  intro os
  induction os with
  | nil =>
    intro s p log h
    -- an exhausted outcome list counts as a successful send
    simp only [tcpLoop]
    exact R.ok_spec ⟨h.alloc.inv, h.finish_ok⟩
  | cons o os ih =>
    intro s p log h
    have hlast : o = .ok ∨ o = .probeFailed → tcpLoop c s p log (o :: os) ≠ .panic ∧
        ∀ s' lg, tcpLoop c s p log (o :: os) = .ok (s', lg) → Inv c s' ∧ Sent c s0 s' lg := by
      intro ho
      obtain ⟨s1, hd, hfin⟩ := h.finish ho
      simp only [tcpLoop, hd, R.bind_ok]
      exact R.ok_spec hfin
    have hi := h.alloc.inv
    cases o with
    | ok => exact hlast (Or.inl rfl)
    | probeFailed => exact hlast (Or.inr rfl)
    | fatal => simp [tcpLoop, doSend]
    | addrInUse =>
      by_cases hcap : s.count < BUFFER_SIZE
      · obtain ⟨p', hre, hp'⟩ := reissueProbe_spec hc h.alloc hcap s.now
        simp only [tcpLoop, doSend, R.bind_ok, roundHasCapacity_eq hi, hcap, decide_true, if_true, hre]
        exact ih _ p' _ (h.reissue htcp hcap hp')
      · simp [tcpLoop, doSend, roundHasCapacity_eq hi, hcap]

theorem tcpLoop_stop {c : Cfg} {s s' : TS} {p : Probe} {log : List (Probe × SendOutcome)} {o : SendOutcome}
    (h : doSend s o = .ok (s', none)) : tcpLoop c s p log [o] = .ok (s', log ++ [(p, o)]) := by
  simp [tcpLoop, h]

theorem doSends_non_tcp {c : Cfg} (hp : c.proto ≠ .tcp) (s : TS) (sends : List SendOutcome) :
    doSends c s sends = (do
      let (s, p) ← nextProbe c s s.now
      let (s, e) ← doSend s (headOutcome sends).1
      match e with
      | none => .ok (s, [(p, (headOutcome sends).1)])
      | some e => .err e) := by
  unfold doSends
  cases h : c.proto with
  | icmp => rfl
  | udp => rfl
  | tcp => exact absurd h hp

theorem doSends_spec {c : Cfg} {s : TS} (hc : CfgOk c) (h : Inv c s) (hcan : canSend c s = true)
    (sends : List SendOutcome) :
    doSends c s sends ≠ .panic ∧
    ∀ s' lg, doSends c s sends = .ok (s', lg) → Inv c s' ∧ Sent c s s' lg := by
  have httl : s.ttl ≤ 254 := Nat.le_trans (canSend_iff.mp hcan).2.1 hc.max_le
  by_cases hcap : s.count < BUFFER_SIZE
  · obtain ⟨p, hnp, hp1⟩ := nextProbe_spec hc h hcap httl s.now
    have hsd : Sending c s (afterNext s p) p [] := Sending.start h hcan hcap httl hp1
    by_cases hp : c.proto = .tcp
    · unfold doSends
      simp only [hp, roundHasCapacity_eq h, hcap, decide_true, if_true, hnp, R.bind_ok]
      exact tcpLoop_spec hc hp s sends _ p [] hsd
    · rw [doSends_non_tcp hp]
      simp only [hnp, R.bind_ok]
      generalize (headOutcome sends).1 = o
      by_cases ho : o = .ok ∨ o = .probeFailed
      · obtain ⟨s1, hd, hfin⟩ := hsd.finish ho
        simp only [hd, R.bind_ok]
        exact R.ok_spec hfin
      · cases o with
        | ok => exact absurd (Or.inl rfl) ho
        | probeFailed => exact absurd (Or.inr rfl) ho
        | addrInUse => simp [doSend]
        | fatal => simp [doSend]
  · have hp : c.proto = .tcp := Decidable.byContradiction fun hp => hcap (h.non_tcp_cap hp)
    unfold doSends
    simp [hp, roundHasCapacity_eq h, hcap]

theorem sendRequest_eq {c : Cfg} {s : TS} (hc : CfgOk c) (h : Inv c s) (sends : List SendOutcome) :
    sendRequest c s sends = if canSend c s then doSends c s sends else .ok (s, []) := by
  simp only [sendRequest, canSendR_eq hc h, R.bind_ok]

theorem sendRequest_spec {c : Cfg} {s : TS} (hc : CfgOk c) (h : Inv c s) (sends : List SendOutcome) :
    sendRequest c s sends ≠ .panic ∧
    ∀ s' lg, sendRequest c s sends = .ok (s', lg) → Inv c s' ∧ Sent c s s' lg := by
  rw [sendRequest_eq hc h]
  split
  · rename_i hg
    exact doSends_spec hc h hg sends
  · rename_i hg
    exact R.ok_spec ⟨h, .idle (by simpa using hg)⟩

theorem sendRequest_frame {c : Cfg} {s s1 : TS} (hc : CfgOk c) (h : Inv c s) {sends : List SendOutcome}
    {lg : List (Probe × SendOutcome)} (hsr : sendRequest c s sends = .ok (s1, lg)) : Inv c s1 ∧ Sent c s s1 lg :=
  (sendRequest_spec hc h sends).2 s1 lg hsr

theorem sendRequest_non_tcp {c : Cfg} {s : TS} (hc : CfgOk c) (h : Inv c s) (hp : c.proto ≠ .tcp)
    (hcan : canSend c s = true) :
    ∃ p, ∀ sends, sendRequest c s sends =
      (match (headOutcome sends).1 with
        | .ok => .ok (afterNext s p, [(p, .ok)])
        | .probeFailed => .ok (afterFail (afterNext s p) p, [(p, .probeFailed)])
        | .addrInUse => .err .addrInUse
        | .fatal => .err .io) := by
  have httl : s.ttl ≤ 254 := Nat.le_trans (canSend_iff.mp hcan).2.1 hc.max_le
  have hcnt := h.non_tcp_cap hp
  obtain ⟨p, hnp, hp1⟩ := nextProbe_spec hc h hcnt httl s.now
  have ha := alloc_afterNext h hcnt httl hp1
  refine ⟨p, fun sends => ?_⟩
  simp only [sendRequest_eq hc h, hcan, if_true, doSends_non_tcp hp, hnp, R.bind_ok]
  cases (headOutcome sends).1 <;> simp [doSend, failProbe_spec ha]

end TV.Strat
