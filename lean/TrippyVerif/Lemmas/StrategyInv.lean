import TrippyVerif.Model.Strategy
/-!
The invariant `Inv` of the tracing state machine, and the operations that change the state (`next_probe`,
`reissue_probe`, `fail_probe`, `complete_probe`, `advance_round`), each in closed form on states that have it, and
each preserving it.
-/
namespace TV.List

theorem getElem?_set_cases {α} {l : List α} {i k : Nat} {x sl : α}
    (h : (l.set i x)[k]? = some sl) : (k = i ∧ sl = x) ∨ (k ≠ i ∧ l[k]? = some sl) := by
  rw [List.getElem?_set] at h
  split at h
  · rename_i hk
    split at h <;> cases h
    exact Or.inl ⟨hk.symm, rfl⟩
  · rename_i hk
    exact Or.inr ⟨fun e => hk e.symm, h⟩

end TV.List

namespace TV.Strat

def Slot.probe? : Slot → Option Probe
  | .notSent | .skipped => none
  | .failed p | .awaited p => some p
  | .complete c => some c.probe

/-- number of sequence numbers allocated in the current round -/
def TS.count (s : TS) : Nat := s.sequence - s.roundSeq

/-- `max_sequence()` as a number (no overflow for builder-accepted initial sequences) -/
def maxSeqN (c : Cfg) : Nat :=
  match c.strat, c.v6 with
  | .dublin, true => c.initialSeq + BUFFER_SIZE
  | _, _ => MAX_SEQUENCE

theorem BUFFER_SIZE_eq : BUFFER_SIZE = 512 := rfl
theorem MAX_SEQUENCE_eq : MAX_SEQUENCE = 65023 := rfl

theorem subU_ok {a b : Nat} (h : b ≤ a) : subU a b = .ok (a - b) := if_pos h

theorem TS.count_add {s s' : TS} {n : Nat} (hge : s.roundSeq ≤ s.sequence) (hrs : s'.roundSeq = s.roundSeq)
    (hseq : s'.sequence = s.sequence + n) : s'.count = s.count + n := by
  unfold TS.count
  omega

theorem count_init (c : Cfg) (t0 : Nat) : (init c t0).count = 0 := by simp [init, TS.count]

structure Inv (c : Cfg) (s : TS) : Prop where
  len : s.buffer.length = BUFFER_SIZE
  seq_ge : s.roundSeq ≤ s.sequence
  count_le : s.count ≤ BUFFER_SIZE
  rs_lt : s.roundSeq < maxSeqN c
  rs_ge : c.initialSeq ≤ s.roundSeq
  ttl_ge : c.firstTtl ≤ s.ttl
  ttl_le : s.ttl ≤ 255
  -- `next_probe` allocates a sequence number and a TTL; `reissue_probe` (TCP, address in use) a sequence number only
  count_ttl : c.proto ≠ .tcp → s.count = s.ttl - c.firstTtl
  count_ge : s.ttl - c.firstTtl ≤ s.count
  slots : ∀ k sl p, s.buffer[k]? = some sl → sl.probe? = some p →
    p.round ≤ s.round ∧
    (p.round = s.round → k < s.count ∧ p.seq = s.roundSeq + k ∧ c.firstTtl ≤ p.ttl ∧ p.ttl < s.ttl)
  maxrecv : ∀ m, s.maxRecvTtl = some m → c.firstTtl ≤ m ∧ m < s.ttl
  -- `target_ttl` survives the rounds; it is the TTL of a probe that was sent, and those lie below `ttl ≤ 255`
  tgt : ∀ t, s.targetTtl = some t → c.firstTtl ≤ t ∧ t ≤ 254

theorem CfgOk.first_ge {c : Cfg} (h : CfgOk c) : 1 ≤ c.firstTtl := h.1
theorem CfgOk.first_le {c : Cfg} (h : CfgOk c) : c.firstTtl ≤ 254 := h.2.1
theorem CfgOk.max_le {c : Cfg} (h : CfgOk c) : c.maxTtl ≤ 254 := h.2.2.1
theorem CfgOk.init_le {c : Cfg} (h : CfgOk c) : c.initialSeq ≤ 64511 := h.2.2.2.1

theorem maxSeqN_bounds {c : Cfg} (h : CfgOk c) : c.initialSeq < maxSeqN c ∧ maxSeqN c ≤ 65023 := by
  have := h.init_le
  unfold maxSeqN
  split <;> simp [BUFFER_SIZE_eq, MAX_SEQUENCE_eq] <;> omega

theorem maxSequence_eq {c : Cfg} (h : CfgOk c) : maxSequence c = .ok (maxSeqN c) := by
  have := h.init_le
  unfold maxSequence maxSeqN addU16
  cases c.strat <;> cases c.v6 <;> simp [BUFFER_SIZE_eq] <;> omega

theorem inv_init {c : Cfg} (h : CfgOk c) (t0 : Nat) : Inv c (init c t0) where
  len := by simp [init]
  seq_ge := by simp [init]
  count_le := by simp [count_init]
  rs_lt := by simpa [init] using (maxSeqN_bounds h).1
  rs_ge := by simp [init]
  ttl_ge := by simp [init]
  ttl_le := by
    have := h.first_le
    simp [init]
    omega
  count_ttl := by
    rw [count_init]
    simp [init]
  count_ge := by
    rw [count_init]
    simp [init]
  slots := by
    intro k sl p hk hp
    simp only [init] at hk
    rw [List.getElem?_replicate] at hk
    split at hk
    · cases hk; simp [Slot.probe?] at hp
    · cases hk
  maxrecv := by simp [init]
  tgt := by simp [init]

/-- the last conjunct of `CfgOk` excludes exactly the combinations for which `probe_data` is `unimplemented!` -/
theorem probeData_ok {c : Cfg} (h : CfgOk c) (s : TS) : ∃ d, probeData c s = .ok d := by
  obtain ⟨_, _, _, _, hm⟩ := h
  unfold probeData
  cases hp : c.proto <;> cases hd : c.portDir <;> cases hs : c.strat <;>
    simp [hp, hd, hs] at hm ⊢

theorem Inv.seq_eq {c : Cfg} {s : TS} (h : Inv c s) : s.sequence = s.roundSeq + s.count := by
  have := h.seq_ge
  unfold TS.count
  omega

theorem Inv.subU_count {c : Cfg} {s : TS} (h : Inv c s) : subU s.sequence s.roundSeq = .ok s.count :=
  subU_ok h.seq_ge

theorem Inv.seq_le {c : Cfg} {s : TS} (hc : CfgOk c) (h : Inv c s) : s.sequence ≤ 65534 := by
  have h1 := h.seq_eq
  have h2 := h.rs_lt
  have h3 := (maxSeqN_bounds hc).2
  have h4 := h.count_le
  rw [BUFFER_SIZE_eq] at h4
  omega

theorem Inv.non_tcp_cap {c : Cfg} {s : TS} (h : Inv c s) (hp : c.proto ≠ .tcp) : s.count < BUFFER_SIZE := by
  have := h.count_ttl hp
  have := h.ttl_le
  rw [BUFFER_SIZE_eq]
  omega

theorem Inv.count_lt_length {c : Cfg} {s : TS} (h : Inv c s) (hcap : s.count < BUFFER_SIZE) :
    s.count < s.buffer.length := h.len ▸ hcap

theorem inv_set_slot {c : Cfg} {s : TS} (h : Inv c s) {i : Nat} {sl x : Slot}
    (hsl : s.buffer[i]? = some sl) (hx : ∀ q, x.probe? = some q → sl.probe? = some q) :
    Inv c { s with buffer := s.buffer.set i x } :=
  { h with
    len := by simpa using h.len
    slots := by
      intro k sl' q hk hq
      rcases List.getElem?_set_cases hk with ⟨rfl, rfl⟩ | ⟨_, hk'⟩
      · exact h.slots _ _ _ hsl (hx q hq)
      · exact h.slots k sl' q hk' hq }

def afterNext (s : TS) (p : Probe) : TS :=
  { s with buffer := s.buffer.set s.count (.awaited p), ttl := s.ttl + 1, sequence := s.sequence + 1 }

@[simp] theorem afterNext_buffer (s : TS) (p : Probe) :
    (afterNext s p).buffer = s.buffer.set s.count (.awaited p) := rfl
@[simp] theorem afterNext_ttl (s : TS) (p : Probe) : (afterNext s p).ttl = s.ttl + 1 := rfl

theorem count_afterNext {s : TS} (h : s.roundSeq ≤ s.sequence) (p : Probe) : (afterNext s p).count = s.count + 1 :=
  TS.count_add h rfl rfl

structure Issued (c : Cfg) (s : TS) (ttl t : Nat) (p : Probe) : Prop where
  data : probeData c s = .ok (p.srcPort, p.destPort, p.ident, p.flags)
  seq : p.seq = s.sequence
  ttl : p.ttl = ttl
  round : p.round = s.round
  sent : p.sent = t

theorem nextProbe_spec {c : Cfg} {s : TS} (hc : CfgOk c) (h : Inv c s) (hcap : s.count < BUFFER_SIZE)
    (httl : s.ttl ≤ 254) (t : Nat) :
    ∃ p, nextProbe c s t = .ok (afterNext s p, p) ∧ Issued c s s.ttl t p := by
  obtain ⟨⟨sp, dp, id, fl⟩, hd⟩ := probeData_ok hc s
  have hseq := h.seq_le hc
  have hidx := h.count_lt_length hcap
  refine ⟨{ seq := s.sequence, ident := id, srcPort := sp, destPort := dp, ttl := s.ttl,
            round := s.round, sent := t, flags := fl }, ?_, ⟨hd, rfl, rfl, rfl, rfl⟩⟩
  have h255 : ¬ 255 ≤ s.ttl := by omega
  have hseq' : ¬ 65535 ≤ s.sequence := by omega
  simp [nextProbe, hd, h.subU_count, setSlot, hidx, h255, hseq', afterNext]

/-- `t` is the next TTL: `ttl + 1` after `next_probe`, `ttl` after `reissue_probe` (TCP only) -/
theorem inv_push {c : Cfg} {s : TS} (h : Inv c s) (hcap : s.count < BUFFER_SIZE) {p : Probe}
    (hseq : p.seq = s.sequence) (hr : p.round = s.round) (hf : c.firstTtl ≤ p.ttl) {t : Nat}
    (hpt : p.ttl < t) (ht : s.ttl ≤ t) (ht1 : t ≤ s.ttl + 1) (ht255 : t ≤ 255)
    (hnt : c.proto ≠ .tcp → t = s.ttl + 1) :
    Inv c { s with buffer := s.buffer.set s.count (.awaited p), ttl := t, sequence := s.sequence + 1 } := by
  have hge := h.seq_ge
  have hfirst := h.ttl_ge
  have hcnt : ∀ b, TS.count { s with buffer := b, ttl := t, sequence := s.sequence + 1 } = s.count + 1 :=
    fun b => TS.count_add hge rfl rfl
  exact { h with
    len := by simpa using h.len
    seq_ge := by simp; omega
    count_le := by
      rw [hcnt]
      simp [BUFFER_SIZE_eq] at hcap ⊢
      omega
    ttl_ge := by simp; omega
    ttl_le := ht255
    count_ttl := by
      intro hp
      rw [hcnt, h.count_ttl hp, hnt hp]
      -- reduces the projections of the structure literal, which `omega` would take for atoms
      simp only
      omega
    count_ge := by
      rw [hcnt]
      have := h.count_ge
      simp only
      omega
    slots := by
      intro k sl q hk hq
      rw [hcnt]
      rcases List.getElem?_set_cases hk with ⟨rfl, rfl⟩ | ⟨_, hk'⟩
      · simp [Slot.probe?] at hq
        subst hq
        have := h.seq_eq
        exact ⟨by simp [hr], fun _ => ⟨by omega, by simp only; omega, hf, hpt⟩⟩
      · obtain ⟨h1, h2⟩ := h.slots k sl q hk' hq
        refine ⟨h1, fun e => ?_⟩
        obtain ⟨a, b, c', d⟩ := h2 e
        exact ⟨by omega, b, c', by simp only; omega⟩
    maxrecv := by
      intro m hm
      have := h.maxrecv m hm
      simp only
      omega }

structure Alloc (c : Cfg) (s : TS) (p : Probe) : Prop where
  inv : Inv c s
  cnt : 1 ≤ s.count
  ttl : c.firstTtl < s.ttl
  slot : s.buffer[s.count - 1]? = some (.awaited p)

theorem Alloc.last_lt {c : Cfg} {s : TS} {p : Probe} (h : Alloc c s p) : s.count - 1 < s.buffer.length :=
  (List.getElem?_eq_some_iff.mp h.slot).1

theorem alloc_afterNext {c : Cfg} {s : TS} (h : Inv c s) (hcap : s.count < BUFFER_SIZE)
    (httl : s.ttl ≤ 254) {t : Nat} {p : Probe} (hp : Issued c s s.ttl t p) : Alloc c (afterNext s p) p := by
  have hcnt := count_afterNext h.seq_ge p
  have hpt := hp.ttl
  refine ⟨inv_push h hcap hp.seq hp.round (hpt ▸ h.ttl_ge) (by omega) (by omega) (Nat.le_refl _) (by omega)
    (fun _ => rfl), by omega, ?_, ?_⟩
  · have := h.ttl_ge
    rw [afterNext_ttl]
    omega
  · rw [hcnt, afterNext_buffer, Nat.add_sub_cancel]
    exact List.getElem?_set_self (h.count_lt_length hcap)

def afterFail (s : TS) (p : Probe) : TS :=
  { s with buffer := s.buffer.set (s.count - 1) (.failed p) }

@[simp] theorem afterFail_buffer (s : TS) (p : Probe) :
    (afterFail s p).buffer = s.buffer.set (s.count - 1) (.failed p) := rfl

theorem failProbe_spec {c : Cfg} {s : TS} {p : Probe} (h : Alloc c s p) :
    failProbe s = .ok (afterFail s p) := by
  obtain ⟨_, hsl⟩ := List.getElem?_eq_some_iff.mp h.slot
  simp [failProbe, h.inv.subU_count, subU_ok h.cnt, hsl, setSlot, h.last_lt, afterFail]

def afterReissue (s : TS) (p : Probe) : TS :=
  { s with buffer := (s.buffer.set (s.count - 1) .skipped).set s.count (.awaited p),
           sequence := s.sequence + 1 }

@[simp] theorem afterReissue_buffer (s : TS) (p : Probe) :
    (afterReissue s p).buffer = (s.buffer.set (s.count - 1) .skipped).set s.count (.awaited p) := rfl
@[simp] theorem afterReissue_sequence (s : TS) (p : Probe) : (afterReissue s p).sequence = s.sequence + 1 := rfl

/-- the re-issued probe keeps the time-to-live of the one it replaces: `ttl` was incremented when that one was made -/
theorem reissueProbe_spec {c : Cfg} {s : TS} {p0 : Probe} (hc : CfgOk c) (h : Alloc c s p0)
    (hcap : s.count < BUFFER_SIZE) (t : Nat) :
    ∃ p, reissueProbe c s t = .ok (afterReissue s p, p) ∧ Issued c s (s.ttl - 1) t p := by
  obtain ⟨⟨sp, dp, id, fl⟩, hd⟩ := probeData_ok hc s
  have hseq := h.inv.seq_le hc
  have httl : 1 ≤ s.ttl := by
    have := h.ttl
    omega
  refine ⟨{ seq := s.sequence, ident := id, srcPort := sp, destPort := dp, ttl := s.ttl - 1,
            round := s.round, sent := t, flags := fl }, ?_, ⟨hd, rfl, rfl, rfl, rfl⟩⟩
  have hseq' : ¬ 65535 ≤ s.sequence := by omega
  -- `probe_data` does not read the buffer
  have hpd : probeData c { s with buffer := s.buffer.set (s.count - 1) .skipped } = .ok (sp, dp, id, fl) := by
    rw [← hd]
    rfl
  simp [reissueProbe, h.inv.subU_count, subU_ok h.cnt, subU_ok httl, setSlot, h.last_lt,
    h.inv.count_lt_length hcap, hpd, hseq', afterReissue]

theorem alloc_afterReissue {c : Cfg} {s : TS} {p0 : Probe} (h : Alloc c s p0)
    (hcap : s.count < BUFFER_SIZE) (htcp : c.proto = .tcp) {t : Nat} {p : Probe}
    (hp : Issued c s (s.ttl - 1) t p) : Alloc c (afterReissue s p) p := by
  have hi := h.inv
  have httl := h.ttl
  have hpt := hp.ttl
  have hcnt : (afterReissue s p).count = s.count + 1 := TS.count_add hi.seq_ge rfl rfl
  have hskip : Inv c { s with buffer := s.buffer.set (s.count - 1) .skipped } :=
    inv_set_slot hi h.slot (fun q hq => by simp [Slot.probe?] at hq)
  refine ⟨inv_push (t := s.ttl) hskip hcap hp.seq hp.round (by omega) (by omega) (Nat.le_refl _) (Nat.le_succ _)
    hi.ttl_le (fun hp => absurd htcp hp), by omega, httl, ?_⟩
  rw [hcnt, afterReissue_buffer, Nat.add_sub_cancel]
  exact List.getElem?_set_self (by simpa using hi.count_lt_length hcap)

theorem newTargetTtl_eq (s : TS) (isT : Bool) (ttl : Nat) :
    newTargetTtl s isT ttl =
      if isT then some (min ttl (s.targetTtl.getD ttl)) else s.targetTtl.filter (ttl < ·) := by
  unfold newTargetTtl
  cases isT with
  | true =>
    cases s.targetTtl with
    | none => simp
    | some t =>
      simp only [if_true, Option.getD_some]
      split
      · rw [Nat.min_eq_left (by omega)]
      · rw [Nat.min_eq_right (by omega)]
  | false =>
    cases s.targetTtl with
    | none => simp
    | some t =>
      simp only [Bool.false_eq_true, if_false, Option.filter, decide_eq_true_eq]
      split
      · rw [if_neg (by omega)]
      · rw [if_pos (by omega)]

theorem newTargetTtl_congr {s s' : TS} (h : s'.targetTtl = s.targetTtl) (isT : Bool) (ttl : Nat) :
    newTargetTtl s' isT ttl = newTargetTtl s isT ttl := by
  unfold newTargetTtl
  rw [h]

theorem newTargetTtl_some {s : TS} {isT : Bool} {ttl t : Nat} (h : newTargetTtl s isT ttl = some t) :
    (isT = true ∧ t = ttl) ∨ s.targetTtl = some t := by
  rw [newTargetTtl_eq] at h
  split at h
  · rename_i hT
    cases hcur : s.targetTtl with
    | none =>
      simp [hcur] at h
      exact Or.inl ⟨hT, h.symm⟩
    | some t0 =>
      simp only [hcur, Option.getD_some, Option.some.injEq] at h
      rcases Nat.le_total ttl t0 with hle | hle
      · exact Or.inl ⟨hT, by omega⟩
      · exact Or.inr (by rw [← h, Nat.min_eq_right hle])
  · exact Or.inr (Option.filter_eq_some_iff.mp h).1

def answered (s : TS) (q : Nat) : Option Probe :=
  if s.roundSeq ≤ q then
    match s.buffer[q - s.roundSeq]? with
    | some (.awaited p) => if p.round = s.round then some p else none
    | _ => none
  else none

def mkComplete (p : Probe) (r : SResp) : Complete :=
  { probe := p, host := r.addr, received := r.received, kind := r.kind, tos := r.tos,
    expCk := r.expCk, actCk := r.actCk, ext := r.ext }

def afterComplete (s : TS) (r : SResp) (p : Probe) : TS :=
  { s with
    buffer := s.buffer.set (r.seq - s.roundSeq)
      (.complete { probe := p, host := r.addr, received := r.received, kind := r.kind, tos := r.tos,
                   expCk := r.expCk, actCk := r.actCk, ext := r.ext }),
    targetTtl := newTargetTtl s r.isTarget p.ttl,
    maxRecvTtl := newMaxRecv s p.ttl,
    recvTime := some r.received,
    targetFound := s.targetFound || r.isTarget }

section
variable (s : TS) (r : SResp) (p : Probe)

@[simp] theorem afterComplete_buffer :
    (afterComplete s r p).buffer = s.buffer.set (r.seq - s.roundSeq) (.complete (mkComplete p r)) := rfl
@[simp] theorem afterComplete_roundSeq : (afterComplete s r p).roundSeq = s.roundSeq := rfl
@[simp] theorem afterComplete_targetTtl : (afterComplete s r p).targetTtl = newTargetTtl s r.isTarget p.ttl := rfl
@[simp] theorem afterComplete_maxRecvTtl : (afterComplete s r p).maxRecvTtl = newMaxRecv s p.ttl := rfl
@[simp] theorem afterComplete_targetFound :
    (afterComplete s r p).targetFound = (s.targetFound || r.isTarget) := rfl

end

theorem answered_afterComplete {s : TS} {r : SResp} (p : Probe) (hge : s.roundSeq ≤ r.seq)
    (hlen : r.seq - s.roundSeq < s.buffer.length) : answered (afterComplete s r p) r.seq = none := by
  have hsl : (afterComplete s r p).buffer[r.seq - s.roundSeq]? = some (.complete (mkComplete p r)) :=
    List.getElem?_set_self hlen
  unfold answered
  rw [afterComplete_roundSeq, if_pos hge, hsl]

theorem completeProbe_eq {c : Cfg} {s : TS} (h : Inv c s) (r : SResp) (hin : inRound s r.seq = true) :
    completeProbe s r = match answered s r.seq with
      | none => .ok s
      | some p => .ok (afterComplete s r p) := by
  simp only [inRound, Bool.and_eq_true, decide_eq_true_eq] at hin
  obtain ⟨hge, hlt⟩ := hin
  have hlen : r.seq - s.roundSeq < s.buffer.length := h.len ▸ hlt
  obtain ⟨sl, hsl⟩ : ∃ sl, s.buffer[r.seq - s.roundSeq]? = some sl :=
    ⟨_, List.getElem?_eq_getElem hlen⟩
  unfold completeProbe answered
  simp only [subU, hge, if_true, R.bind_ok, hsl]
  cases sl with
  | awaited p =>
    by_cases hr : p.round = s.round
    · simp [hr, setSlot, hlen, afterComplete]
    · simp [hr]
  | notSent => simp
  | skipped => simp
  | failed p => simp
  | complete cp => simp

structure Awaited (c : Cfg) (s : TS) (q : Nat) (p : Probe) : Prop where
  ge : s.roundSeq ≤ q
  lt : q < s.sequence
  seq : p.seq = q
  round : p.round = s.round
  ttl_ge : c.firstTtl ≤ p.ttl
  ttl_lt : p.ttl < s.ttl
  slot : s.buffer[q - s.roundSeq]? = some (.awaited p)

theorem answered_spec {c : Cfg} {s : TS} (h : Inv c s) {q : Nat} {p : Probe}
    (ha : answered s q = some p) : Awaited c s q p := by
  unfold answered at ha
  split at ha
  · rename_i hge
    split at ha
    · rename_i p' hsl
      split at ha
      · rename_i hr
        cases ha
        obtain ⟨a, b, c', d⟩ := (h.slots _ _ _ hsl rfl).2 hr
        have := h.seq_eq
        exact ⟨hge, by omega, by omega, hr, c', d, hsl⟩
      · cases ha
    · cases ha
  · cases ha

theorem inv_afterComplete {c : Cfg} {s : TS} (h : Inv c s) (r : SResp) {p : Probe}
    (ha : answered s r.seq = some p) : Inv c (afterComplete s r p) := by
  have ha := answered_spec h ha
  have hf := ha.ttl_ge
  have ht := ha.ttl_lt
  have hle := h.ttl_le
  have hb : Inv c { s with buffer := (afterComplete s r p).buffer } := inv_set_slot h ha.slot (fun _ hq => hq)
  exact { hb with
    maxrecv := by
      intro m hm
      show c.firstTtl ≤ m ∧ m < s.ttl
      rw [afterComplete_maxRecvTtl, newMaxRecv] at hm
      cases hmr : s.maxRecvTtl with
      | none =>
        simp only [hmr, Option.some.injEq] at hm
        omega
      | some m0 =>
        have := h.maxrecv m0 hmr
        simp only [hmr, Option.some.injEq] at hm
        omega
    tgt := by
      intro t htt
      rcases newTargetTtl_some htt with ⟨_, rfl⟩ | htg
      · exact ⟨hf, by omega⟩
      · exact h.tgt t htg }

def afterAdvance (c : Cfg) (s : TS) : TS :=
  let sq := if s.sequence ≥ maxSeqN c then c.initialSeq else s.sequence
  { s with sequence := sq, targetFound := false, roundSeq := sq, recvTime := none,
           roundStart := s.now, maxRecvTtl := none, round := s.round + 1, ttl := c.firstTtl }

section
variable (c : Cfg) (s : TS)

@[simp] theorem afterAdvance_roundSeq :
    (afterAdvance c s).roundSeq = if s.sequence ≥ maxSeqN c then c.initialSeq else s.sequence := rfl
@[simp] theorem afterAdvance_sequence : (afterAdvance c s).sequence = (afterAdvance c s).roundSeq := rfl
@[simp] theorem afterAdvance_round : (afterAdvance c s).round = s.round + 1 := rfl
@[simp] theorem afterAdvance_ttl : (afterAdvance c s).ttl = c.firstTtl := rfl
@[simp] theorem afterAdvance_roundStart : (afterAdvance c s).roundStart = s.now := rfl
@[simp] theorem afterAdvance_now : (afterAdvance c s).now = s.now := rfl
@[simp] theorem afterAdvance_targetFound : (afterAdvance c s).targetFound = false := rfl
@[simp] theorem afterAdvance_targetTtl : (afterAdvance c s).targetTtl = s.targetTtl := rfl
@[simp] theorem afterAdvance_maxRecvTtl : (afterAdvance c s).maxRecvTtl = none := rfl

theorem count_afterAdvance : (afterAdvance c s).count = 0 := by simp [TS.count]

end

theorem advanceRound_eq {c : Cfg} (hc : CfgOk c) (s : TS) :
    advanceRound c s = .ok (afterAdvance c s) := by
  simp [advanceRound, maxSequence_eq hc, afterAdvance]

theorem inv_afterAdvance {c : Cfg} {s : TS} (hc : CfgOk c) (h : Inv c s) : Inv c (afterAdvance c s) := by
  have hgt := (maxSeqN_bounds hc).1
  have hfl := hc.first_le
  have hrs := h.rs_ge
  have hsq := h.seq_ge
  exact { h with
    seq_ge := by simp
    count_le := by simp [count_afterAdvance]
    rs_lt := by
      rw [afterAdvance_roundSeq]
      split <;> omega
    rs_ge := by
      rw [afterAdvance_roundSeq]
      split <;> omega
    ttl_ge := by simp
    ttl_le := by
      rw [afterAdvance_ttl]
      omega
    count_ttl := by simp [count_afterAdvance]
    count_ge := by simp [count_afterAdvance]
    slots := by
      intro k sl q hk hq
      have := (h.slots k sl q hk hq).1
      rw [afterAdvance_round]
      exact ⟨by omega, fun e => by omega⟩
    maxrecv := by simp }

end TV.Strat
