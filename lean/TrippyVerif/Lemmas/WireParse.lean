import TrippyVerif.Lemmas.WireSend
import TrippyVerif.Lemmas.R
import TrippyVerif.Lemmas.Ext
/-!
The parsers of the receive path on arbitrary octets, in closed form, and none of them panics (C04). `getD · 0` in the
closed forms is the octet, in range on the `ok` branch.
-/
namespace TV.Wire

theorem extractEchoRequest_eq (l4 : Buf) :
    extractEchoRequest l4 =
      if l4.length < 8 then .err .pktShort
      else .ok (beN (l4.getD 4 0) (l4.getD 5 0), beN (l4.getD 6 0) (l4.getD 7 0)) := by
  unfold extractEchoRequest l4Hdr
  split
  · rfl
  · rw [rd16_ok l4 4 (by omega), rd16_ok l4 6 (by omega)]
    rfl

theorem extractUdp_eq (l4 : Buf) :
    extractUdp l4 =
      if l4.length < 8 then .err .pktShort
      else .ok (beN (l4.getD 0 0) (l4.getD 1 0), beN (l4.getD 2 0) (l4.getD 3 0),
        beN (l4.getD 6 0) (l4.getD 7 0), beN (l4.getD 4 0) (l4.getD 5 0) - 8) := by
  unfold extractUdp l4Hdr
  split
  · rfl
  · rw [rd16_ok l4 0 (by omega), rd16_ok l4 2 (by omega), rd16_ok l4 4 (by omega),
      rd16_ok l4 6 (by omega)]
    rfl

/-- a short quotation is padded with zeros, which is what `getD · 0` reads beyond the end -/
theorem extractTcp4_eq (l4 : Buf) :
    extractTcp4 l4 = .ok (beN (l4.getD 0 0) (l4.getD 1 0), beN (l4.getD 2 0) (l4.getD 3 0)) := by
  have pad : ∀ i, (l4 ++ List.replicate (20 - l4.length) 0).getD i 0 = l4.getD i 0 := by
    intro i
    simp only [List.getD_eq_getElem?_getD, List.getElem?_append, List.getElem?_replicate]
    split
    · rfl
    · rw [List.getElem?_eq_none (by omega)]
      split <;> rfl
  have hlen : (l4 ++ List.replicate (20 - l4.length) 0).length = l4.length + (20 - l4.length) := by
    rw [List.length_append, List.length_replicate]
  unfold extractTcp4 tcpHdr
  split
  · rw [if_neg (by omega), rd16_ok _ 0 (by omega), rd16_ok _ 2 (by omega), pad, pad, pad, pad]
    rfl
  · rw [if_neg (by omega), rd16_ok l4 0 (by omega), rd16_ok l4 2 (by omega)]
    rfl

theorem extractTcp6_eq (l4 : Buf) :
    extractTcp6 l4 =
      if l4.length < 20 then .err .pktShort
      else .ok (beN (l4.getD 0 0) (l4.getD 1 0), beN (l4.getD 2 0) (l4.getD 3 0)) := by
  unfold extractTcp6 tcpHdr
  split
  · rfl
  · rw [rd16_ok l4 0 (by omega), rd16_ok l4 2 (by omega)]
    rfl

theorem udpHasMagic_eq (l4 : Buf) :
    udpHasMagic l4 =
      if l4.length < 8 then .err .pktShort else .ok (Consts.net6_MAGIC.isPrefixOf (l4.drop 8)) := by
  unfold udpHasMagic l4Hdr
  split
  · rfl
  · rw [udpPayload_ok l4 (by omega)]
    rfl

theorem extractTcp6_of_length (l4 : Buf) (a0 a1 a2 a3 : UInt8) (t : Buf)
    (h : l4 = a0 :: a1 :: a2 :: a3 :: t) (hl : 20 ≤ l4.length) :
    extractTcp6 l4 = .ok (beN a0 a1, beN a2 a3) := by
  rw [extractTcp6_eq, if_neg (by omega), h]
  rfl

theorem extractEchoRequest_ne_panic (l4 : Buf) : extractEchoRequest l4 ≠ .panic := by
  rw [extractEchoRequest_eq]
  split <;> simp

theorem extractUdp_ne_panic (l4 : Buf) : extractUdp l4 ≠ .panic := by
  rw [extractUdp_eq]
  split <;> simp

theorem extractTcp4_ne_panic (l4 : Buf) : extractTcp4 l4 ≠ .panic := by
  simp [extractTcp4_eq]

theorem extractTcp6_ne_panic (l4 : Buf) : extractTcp6 l4 ≠ .panic := by
  rw [extractTcp6_eq]
  split <;> simp

theorem udpHasMagic_ne_panic (l4 : Buf) : udpHasMagic l4 ≠ .panic := by
  rw [udpHasMagic_eq]
  split <;> simp

theorem trafficClass_ok (ip : Buf) (h : 2 ≤ ip.length) :
    trafficClass ip = .ok ((ip.getD 0 0).toNat % 16 * 16 + (ip.getD 1 0).toNat / 16) := by
  simp [trafficClass, rd_ok ip 0 (by omega), rd_ok ip 1 (by omega)]

/-- one arm of `extract_probe_proto_resp`: the transport parser, or `ok none` for another protocol number -/
theorem arm_ne_panic {α β : Type} {p : Prop} [Decidable p] {x : R α} {f : α → R (Option β)}
    (hx : x ≠ .panic) (hf : ∀ a, f a ≠ .panic) : (if p then x >>= f else pure none) ≠ .panic := by
  split
  · exact R.bind_ne_panic hx fun a _ => hf a
  · simp

theorem protoResp4_ne_panic (c : ChanCfg) (hc : c.AddrOk) (ip : Buf) (h : 20 ≤ ip.length) :
    protoResp4 c ip ≠ .panic := by
  unfold protoResp4
  simp only [rd_ok ip 9 (by omega), rd_ok ip 1 (by omega), R.bind_ok, ipv4Payload_ok ip (by omega),
    rd16_ok ip 4 (by omega), rdSlice_ok ip 16 4 (by omega)]
  cases c.proto with
  | icmp => exact arm_ne_panic (extractEchoRequest_ne_panic _) fun a => by simp
  | udp =>
    refine arm_ne_panic (extractUdp_ne_panic _) fun a => ?_
    obtain ⟨ck, hck⟩ := calcUdpChecksum_ok c hc a.1 a.2.1 a.2.2.2
    simp [hck]
  | tcp => exact arm_ne_panic (extractTcp4_ne_panic _) fun a => by simp

theorem protoResp6_ne_panic (c : ChanCfg) (ip : Buf) (h : 40 ≤ ip.length) :
    protoResp6 c ip ≠ .panic := by
  unfold protoResp6
  simp only [rd_ok ip 6 (by omega), R.bind_ok, ipv6Payload_ok ip (by omega),
    trafficClass_ok ip (by omega), rdSlice_ok ip 24 16 (by omega)]
  cases c.proto with
  | icmp => exact arm_ne_panic (extractEchoRequest_ne_panic _) fun a => by simp
  | udp =>
    exact arm_ne_panic (extractUdp_ne_panic _) fun a =>
      R.bind_ne_panic (udpHasMagic_ne_panic _) fun m _ => by simp
  | tcp => exact arm_ne_panic (extractTcp6_ne_panic _) fun a => by simp

theorem protoResp_ne_panic (c : ChanCfg) (hc : c.AddrOk) (ip : Buf) : protoResp c ip ≠ .panic := by
  unfold protoResp
  split
  next => simp
  next h =>
    simp only [ipHdr, Nat.not_lt] at h
    split
    next hv =>
      simp only [hv, if_true] at h
      exact protoResp6_ne_panic c ip h
    next hv =>
      simp only [hv] at h
      exact protoResp4_ne_panic c hc ip h

/-- the response `extract_probe_resp` makes of the parser's verdict `pr` -/
def mkResp (kind : Strat.RespKind) (addr : Buf) (exts : Option (List Ext.Extension))
    (pr : Option Strat.ProtoResp) : Option WResp :=
  pr.map fun p => { kind := kind, addr := addr, proto := p, exts := exts }

theorem mkResp_map_eq_some {kind : Strat.RespKind} {addr : Buf} {exts : Option (List Ext.Extension)}
    {x : R (Option Strat.ProtoResp)} {r : WResp} (h : mkResp kind addr exts <$> x = .ok (some r)) :
    ∃ p, x = .ok (some p) ∧ r = { kind := kind, addr := addr, proto := p, exts := exts } := by
  match x, h with
  | .ok (some p), h => exact ⟨p, rfl, by cases h; rfl⟩

/-- the Time Exceeded / Destination Unreachable arm of `extract_probe_resp`: `true` is `Ext.codeIsFixed` (the code
as repaired), `mkResp ..` unfolds to the model's `pr.map ..` -/
theorem quotedResp_ne_panic (c : ChanCfg) (hc : c.AddrOk) (te : Bool) (icmp src : Buf)
    (h : 8 ≤ icmp.length) (kind : Strat.RespKind) :
    (do
      let (quoted, exts) ← Ext.tracerExtract true c.v6 te c.extEnabled icmp
      let pr ← protoResp c quoted
      pure (mkResp kind src exts pr)) ≠ R.panic := by
  apply R.bind_ne_panic (Ext.tracerExtract_ne_panic c.v6 te c.extEnabled icmp h)
  intro a _
  obtain ⟨q, e⟩ := a
  simp only
  apply R.bind_ne_panic (protoResp_ne_panic c hc q)
  intro pr _
  simp

theorem extractProbeResp_ne_panic (c : ChanCfg) (hc : c.AddrOk) (icmp src : Buf)
    (h : 8 ≤ icmp.length) : extractProbeResp c icmp src ≠ .panic := by
  unfold extractProbeResp
  simp only [rd_ok icmp 0 (by omega), rd_ok icmp 1 (by omega), rd16_ok icmp 4 (by omega),
    rd16_ok icmp 6 (by omega), R.bind_ok, Ext.codeIsFixed]
  split
  · split
    · exact quotedResp_ne_panic c hc true icmp src h _
    · simp
  · split
    · exact quotedResp_ne_panic c hc false icmp src h _
    · split
      · cases c.proto <;> simp
      · simp

theorem recvIcmp4_ne_panic (c : ChanCfg) (hc : c.AddrOk) (bytes : Buf) :
    recvIcmp4 c bytes ≠ .panic := by
  unfold recvIcmp4
  split
  next => simp
  next h =>
    simp only [ip4Hdr, Nat.not_lt] at h
    simp only [rdSlice_ok bytes 12 4 (by omega), ipv4Payload_ok bytes (by omega), R.bind_ok]
    split
    next => simp
    next h8 =>
      simp only [l4Hdr, Nat.not_lt] at h8
      exact extractProbeResp_ne_panic c hc _ _ h8

theorem recvIcmp6_ne_panic (c : ChanCfg) (hc : c.AddrOk) (bytes src : Buf) (hs : src.length ≠ 4) :
    recvIcmp6 c bytes src ≠ .panic := by
  unfold recvIcmp6
  split
  next => simp
  next h =>
    simp only [l4Hdr, Nat.not_lt] at h
    split
    · simp
    · exact extractProbeResp_ne_panic c hc _ _ h

end TV.Wire
