import TrippyVerif.Lemmas.WireParse
import TrippyVerif.Lemmas.Ext
import TrippyVerif.Spec.Quote
/-!
The receive side on conforming quotations (C02): `recv_icmp_probe` on a delivered ICMP error message up to the protocol
parser, the protocol parsers over an abstract IP header, and the quotation of a datagram in that form.
-/
namespace TV.Wire
open TV.Ext TV.Rfc4884 TV.Quote

/-- side conditions of an RFC 4884 body: the extension structure has at least its header and the
length attribute fits its octet -/
def BodyOk (v6 : Bool) (q : Buf) : Body → Prop
  | .plain => True
  | .rfc4884 mode ext => 4 ≤ ext.length ∧ lengthAttr v6 mode q ≤ 255

theorem icmpMessage_head (v6 : Bool) (h : IcmpHdr) (b : Body) (q : Buf) :
    ∃ rest, icmpMessage v6 h b q = h.type :: h.code :: rest ∧ 6 ≤ rest.length := by
  -- either body begins with the eight header octets
  have hh : ∀ n z, ∃ rest, icmpHeaderBytes v6 h n ++ z = h.type :: h.code :: rest ∧
      6 ≤ rest.length := by
    intro n z
    cases v6
    · exact ⟨_, rfl, by simp⟩
    · exact ⟨_, rfl, by simp⟩
  cases b with
  | plain => exact hh 0 q
  | rfc4884 mode ext => exact hh _ _

theorem icmpMessage_length (v6 : Bool) (h : IcmpHdr) (b : Body) (q : Buf) :
    8 ≤ (icmpMessage v6 h b q).length := by
  obtain ⟨rest, hm, hr⟩ := icmpMessage_head v6 h b q
  rw [hm]
  simp only [List.length_cons]
  omega

/-- `N ≤ 128`: the legacy embedding and the non-compliant split keep the first 128 octets of the quotation only -/
theorem extract_prefix (v6 te en : Bool) (h : IcmpHdr) (b : Body) (q : Buf) (hb : BodyOk v6 q b)
    (N : Nat) (hN : N ≤ 128) :
    ∃ q' exts, tracerExtract true v6 te en (icmpMessage v6 h b q) = .ok (q', exts) ∧
      q.take N <+: q' := by
  obtain ⟨exts, hx⟩ := tracerExtract_ok v6 te en (icmpMessage v6 h b q)
    (icmpMessage_length v6 h b q)
  refine ⟨_, exts, hx, ?_⟩
  cases b with
  | plain =>
    have hdrop : (icmpHeaderBytes v6 h 0 ++ q).drop 8 = q := by
      unfold icmpHeaderBytes; cases v6 <;> simp
    have hlo : (lengthOctet v6 (icmpHeaderBytes v6 h 0 ++ q)).toNat * unitOf v6 = 0 := by
      unfold icmpHeaderBytes lengthOctet lengthOffset; cases v6 <;> simp
    simp only [icmpMessage]
    rw [hdrop, hlo]
    split
    · exact List.take_prefix _ _
    · rcases split_zero q with hs | hs
      · rw [hs]
        exact List.take_prefix _ _
      · rw [hs]
        exact List.take_prefix_take_left hN
  | rfc4884 mode ext =>
    have hp : ∀ z : Buf, q.take N <+: padOrig v6 mode q ++ z := by
      intro z
      cases mode with
      | compliant =>
        simp only [padOrig, padTo, List.append_assoc]
        exact (List.take_prefix _ _).trans (List.prefix_append _ _)
      | legacy =>
        simp only [padOrig, padTo, List.append_assoc]
        exact (List.take_prefix_take_left hN).trans (List.prefix_append _ _)
    simp only [icmpMessage]
    rw [buildIcmp_drop, buildIcmp_lengthOctet, split_built v6 mode q ext hb.1 hb.2]
    split
    · exact hp ext
    · simpa using hp []

theorem extractEchoRequest_cons (a0 a1 a2 a3 a4 a5 a6 a7 : UInt8) (t : Buf) :
    extractEchoRequest (a0 :: a1 :: a2 :: a3 :: a4 :: a5 :: a6 :: a7 :: t) =
      .ok (beN a4 a5, beN a6 a7) := by
  simp [extractEchoRequest_eq]

theorem extractUdp_cons (a0 a1 a2 a3 a4 a5 a6 a7 : UInt8) (t : Buf) :
    extractUdp (a0 :: a1 :: a2 :: a3 :: a4 :: a5 :: a6 :: a7 :: t) =
      .ok (beN a0 a1, beN a2 a3, beN a6 a7, beN a4 a5 - 8) := by
  simp [extractUdp_eq]

theorem extractTcp6_cons (a0 a1 a2 a3 a4 a5 a6 a7 : UInt8) (t : Buf) :
    extractTcp6 (a0 :: a1 :: a2 :: a3 :: a4 :: a5 :: a6 :: a7 :: t) =
      if t.length < 12 then .err .pktShort else .ok (beN a0 a1, beN a2 a3) := by
  have h : (a0 :: a1 :: a2 :: a3 :: a4 :: a5 :: a6 :: a7 :: t).length < 20 ↔ t.length < 12 := by
    simp only [List.length_cons]
    omega
  rw [extractTcp6_eq]
  simp only [h]
  rfl

theorem udpHasMagic_cons (a0 a1 a2 a3 a4 a5 a6 a7 : UInt8) (t : Buf) :
    udpHasMagic (a0 :: a1 :: a2 :: a3 :: a4 :: a5 :: a6 :: a7 :: t) =
      .ok (Consts.net6_MAGIC.isPrefixOf t) := by
  simp [udpHasMagic_eq]

/-- the IPv4 parser's verdict on the first 28 octets (independent of what follows) -/
def parse4 (c : ChanCfg) (tos i0 i1 pr : UInt8) (dst : Buf) (a0 a1 a2 a3 a4 a5 a6 a7 : UInt8) :
    R (Option Strat.ProtoResp) :=
  match c.proto with
  | .icmp =>
    if pr = protoIcmp then .ok (some (.icmp (beN a4 a5) (beN a6 a7) (some tos.toNat))) else .ok none
  | .udp =>
    if pr = protoUdp then
      (fun e => some (.udp (beN i0 i1) (addrNat dst) (beN a0 a1) (beN a2 a3)
          (some tos.toNat) e (beN a6 a7) (beN a4 a5 - 8) false)) <$>
        calcUdpChecksum c (beN a0 a1) (beN a2 a3) (beN a4 a5 - 8)
    else .ok none
  | .tcp =>
    if pr = protoTcp then
      .ok (some (.tcp (addrNat dst) (beN a0 a1) (beN a2 a3) (some tos.toNat)))
    else .ok none

theorem parse4_icmp {c : ChanCfg} (hp : c.proto = .icmp) {tos i0 i1 : UInt8} {dst : Buf}
    {a0 a1 a2 a3 a4 a5 a6 a7 : UInt8} :
    parse4 c tos i0 i1 protoIcmp dst a0 a1 a2 a3 a4 a5 a6 a7 =
      .ok (some (.icmp (beN a4 a5) (beN a6 a7) (some tos.toNat))) := by
  simp [parse4, hp]

/-- `e`: the checksum `calc_udp_checksum` expects -/
theorem parse4_udp {c : ChanCfg} (hc : c.AddrOk) (hp : c.proto = .udp) {tos i0 i1 : UInt8}
    {dst : Buf} {a0 a1 a2 a3 a4 a5 a6 a7 : UInt8} :
    ∃ e, parse4 c tos i0 i1 protoUdp dst a0 a1 a2 a3 a4 a5 a6 a7 =
      .ok (some (.udp (beN i0 i1) (addrNat dst) (beN a0 a1) (beN a2 a3) (some tos.toNat) e
        (beN a6 a7) (beN a4 a5 - 8) false)) := by
  obtain ⟨e, he⟩ := calcUdpChecksum_ok c hc (beN a0 a1) (beN a2 a3) (beN a4 a5 - 8)
  exact ⟨e, by simp [parse4, hp, he]⟩

theorem parse4_tcp {c : ChanCfg} (hp : c.proto = .tcp) {tos i0 i1 : UInt8} {dst : Buf}
    {a0 a1 a2 a3 a4 a5 a6 a7 : UInt8} :
    parse4 c tos i0 i1 protoTcp dst a0 a1 a2 a3 a4 a5 a6 a7 =
      .ok (some (.tcp (addrNat dst) (beN a0 a1) (beN a2 a3) (some tos.toNat))) := by
  simp [parse4, hp]

def QuotesL4 (dest sp dp : Nat) : Strat.ProtoResp → Prop
  | .icmp .. => False
  | .udp _ dest' sp' dp' .. => dest' = dest ∧ sp' = sp ∧ dp' = dp
  | .tcp dest' sp' dp' _ => dest' = dest ∧ sp' = sp ∧ dp' = dp

theorem parse4_l4 {c : ChanCfg} (hp : c.proto ≠ .icmp) {tos i0 i1 pr : UInt8} {dst : Buf}
    {a0 a1 a2 a3 a4 a5 a6 a7 : UInt8} {x : Strat.ProtoResp}
    (h : parse4 c tos i0 i1 pr dst a0 a1 a2 a3 a4 a5 a6 a7 = .ok (some x)) :
    QuotesL4 (addrNat dst) (beN a0 a1) (beN a2 a3) x := by
  unfold parse4 at h
  cases hpr : c.proto with
  | icmp => exact absurd hpr hp
  | udp =>
    simp only [hpr] at h
    split at h
    · generalize calcUdpChecksum c (beN a0 a1) (beN a2 a3) (beN a4 a5 - 8) = r at h
      cases r <;> cases h
      exact ⟨rfl, rfl, rfl⟩
    · cases h
  | tcp =>
    simp only [hpr] at h
    split at h
    · cases h
      exact ⟨rfl, rfl, rfl⟩
    · cases h

theorem protoResp_H4 (c : ChanCfg) (hc : c.AddrOk) (hv : c.v6 = false) {H : Buf}
    (hH : H.length = 20) (h0 : H.getD 0 0 = 0x45) {a0 a1 a2 a3 a4 a5 a6 a7 : UInt8} {tail : Buf} :
    protoResp c (H ++ a0 :: a1 :: a2 :: a3 :: a4 :: a5 :: a6 :: a7 :: tail) =
      parse4 c (H.getD 1 0) (H.getD 4 0) (H.getD 5 0) (H.getD 9 0) (H.drop 16)
        a0 a1 a2 a3 a4 a5 a6 a7 := by
  have hl : (H ++ a0 :: a1 :: a2 :: a3 :: a4 :: a5 :: a6 :: a7 :: tail).length = 28 + tail.length := by
    simp only [List.length_append, List.length_cons, hH]
    omega
  unfold protoResp
  rw [if_neg (by
    rw [hl]
    simp [ipHdr, ip4Hdr, hv]
    omega)]
  simp only [hv, Bool.false_eq_true, if_false]
  unfold protoResp4
  rw [rd_append_left 9 (by omega), rd_append_left 1 (by omega),
    ipv4Payload_ihl5 _ (by rw [getD_append_left 0 (by omega), h0]) (by rw [hl]; omega),
    List.drop_left' hH, rd16_append_left 4 (by omega), rdSlice_append_left 16 4 (by omega)]
  cases hp : c.proto with
  | icmp => simp [parse4, hp, extractEchoRequest_cons]
  | udp =>
    obtain ⟨ck, hck⟩ := calcUdpChecksum_ok c hc (beN a0 a1) (beN a2 a3) (beN a4 a5 - 8)
    simp [parse4, hp, extractUdp_cons, hck]
  | tcp => simp [parse4, hp, extractTcp4_eq]

/-- the part of the quoted IPv6 payload the tracer looks at, given the rest `tail` after the first
eight octets: limited by the quoted payload-length field and by what was quoted -/
def tail6 (H tail : Buf) : Buf :=
  tail.take (min (40 + beN (H.getD 4 0) (H.getD 5 0)) (48 + tail.length) - 48)

theorem tail6_take (H x z : Buf) (h : 8 + x.length ≤ beN (H.getD 4 0) (H.getD 5 0)) :
    (tail6 H (x ++ z)).take x.length = x ∧ x.length ≤ (tail6 H (x ++ z)).length := by
  unfold tail6
  generalize hk : min (40 + beN (H.getD 4 0) (H.getD 5 0)) (48 + (x ++ z).length) - 48 = k
  have hxk : x.length ≤ k := by
    rw [List.length_append] at hk
    omega
  constructor
  · rw [List.take_take, Nat.min_eq_left hxk, List.take_left]
  · rw [List.length_take, List.length_append]
    omega

theorem ipv6Payload_H {H : Buf} (hH : H.length = 40) {a0 a1 a2 a3 a4 a5 a6 a7 : UInt8} {tail : Buf}
    (hpl : 8 ≤ beN (H.getD 4 0) (H.getD 5 0)) :
    ipv6Payload (H ++ a0 :: a1 :: a2 :: a3 :: a4 :: a5 :: a6 :: a7 :: tail) =
      .ok (a0 :: a1 :: a2 :: a3 :: a4 :: a5 :: a6 :: a7 :: tail6 H tail) := by
  have hl : (H ++ a0 :: a1 :: a2 :: a3 :: a4 :: a5 :: a6 :: a7 :: tail).length = 48 + tail.length := by
    simp only [List.length_append, List.length_cons, hH]
    omega
  rw [ipv6Payload_ok _ (by omega), hl, getD_append_left 4 (by omega), getD_append_left 5 (by omega)]
  rw [if_neg (by omega)]
  congr 1
  -- of the `n` octets the length field admits, 40 are `H`, eight are `a0 … a7`, `n - 48` are of `tail`
  rw [List.drop_take, List.drop_append_of_le_length (by omega), List.drop_of_length_le (by omega),
    List.nil_append]
  unfold tail6
  generalize hn : min (40 + beN (H.getD 4 0) (H.getD 5 0)) (48 + tail.length) = n
  have hn8 : n - 40 = (n - 48) + 8 := by omega
  rw [hn8]
  simp [List.take_succ_cons]

/-- the IPv6 parser's verdict; `t6` is what it sees of the quoted payload after its first eight octets -/
def parse6 (c : ChanCfg) (tc : Nat) (nh : UInt8) (dst : Buf) (a0 a1 a2 a3 a4 a5 a6 a7 : UInt8)
    (t6 : Buf) : R (Option Strat.ProtoResp) :=
  match c.proto with
  | .icmp =>
    if nh = protoIcmpV6 then .ok (some (.icmp (beN a4 a5) (beN a6 a7) (some tc))) else .ok none
  | .udp =>
    if nh = protoUdp then
      let magic := Consts.net6_MAGIC.isPrefixOf t6
      .ok (some (.udp 0 (addrNat dst) (beN a0 a1) (beN a2 a3) (some tc) (beN a6 a7) (beN a6 a7)
        (if magic then beN a4 a5 - 8 - 6 else beN a4 a5 - 8) magic))
    else .ok none
  | .tcp =>
    if nh = protoTcp then
      if t6.length < 12 then .err .pktShort
      else .ok (some (.tcp (addrNat dst) (beN a0 a1) (beN a2 a3) (some tc)))
    else .ok none

theorem parse6_icmp {c : ChanCfg} (hp : c.proto = .icmp) {tc : Nat} {dst : Buf}
    {a0 a1 a2 a3 a4 a5 a6 a7 : UInt8} {t6 : Buf} :
    parse6 c tc protoIcmpV6 dst a0 a1 a2 a3 a4 a5 a6 a7 t6 =
      .ok (some (.icmp (beN a4 a5) (beN a6 a7) (some tc))) := by
  simp [parse6, hp]

theorem parse6_udp {c : ChanCfg} (hp : c.proto = .udp) {tc : Nat} {dst : Buf}
    {a0 a1 a2 a3 a4 a5 a6 a7 : UInt8} {t6 : Buf} :
    parse6 c tc protoUdp dst a0 a1 a2 a3 a4 a5 a6 a7 t6 =
      .ok (some (.udp 0 (addrNat dst) (beN a0 a1) (beN a2 a3) (some tc) (beN a6 a7) (beN a6 a7)
        (if Consts.net6_MAGIC.isPrefixOf t6 then beN a4 a5 - 8 - 6 else beN a4 a5 - 8)
        (Consts.net6_MAGIC.isPrefixOf t6))) := by
  simp [parse6, hp]

theorem parse6_tcp {c : ChanCfg} (hp : c.proto = .tcp) {tc : Nat} {dst : Buf}
    {a0 a1 a2 a3 a4 a5 a6 a7 : UInt8} {t6 : Buf} (hl : 12 ≤ t6.length) :
    parse6 c tc protoTcp dst a0 a1 a2 a3 a4 a5 a6 a7 t6 =
      .ok (some (.tcp (addrNat dst) (beN a0 a1) (beN a2 a3) (some tc))) := by
  simp [parse6, hp, Nat.not_lt.2 hl]

theorem parse6_l4 {c : ChanCfg} (hp : c.proto ≠ .icmp) {tc : Nat} {nh : UInt8} {dst : Buf}
    {a0 a1 a2 a3 a4 a5 a6 a7 : UInt8} {t6 : Buf} {x : Strat.ProtoResp}
    (h : parse6 c tc nh dst a0 a1 a2 a3 a4 a5 a6 a7 t6 = .ok (some x)) :
    QuotesL4 (addrNat dst) (beN a0 a1) (beN a2 a3) x := by
  unfold parse6 at h
  cases hpr : c.proto with
  | icmp => exact absurd hpr hp
  | udp =>
    simp only [hpr] at h
    split at h
    · cases h
      exact ⟨rfl, rfl, rfl⟩
    · cases h
  | tcp =>
    simp only [hpr] at h
    split at h
    · split at h
      · cases h
      · cases h
        exact ⟨rfl, rfl, rfl⟩
    · cases h

/-- over IPv6 `extract_probe_proto_resp` also looks at `tail6` (Dublin marker, TCP header length) -/
theorem protoResp_H6 (c : ChanCfg) (hv : c.v6 = true) {H : Buf} (hH : H.length = 40)
    {a0 a1 a2 a3 a4 a5 a6 a7 : UInt8} {tail : Buf}
    (hpl : 8 ≤ beN (H.getD 4 0) (H.getD 5 0)) :
    protoResp c (H ++ a0 :: a1 :: a2 :: a3 :: a4 :: a5 :: a6 :: a7 :: tail) =
      parse6 c ((H.getD 0 0).toNat % 16 * 16 + (H.getD 1 0).toNat / 16) (H.getD 6 0) (H.drop 24)
        a0 a1 a2 a3 a4 a5 a6 a7 (tail6 H tail) := by
  have hl : (H ++ a0 :: a1 :: a2 :: a3 :: a4 :: a5 :: a6 :: a7 :: tail).length = 48 + tail.length := by
    simp only [List.length_append, List.length_cons, hH]
    omega
  have hlt : ¬ ((H ++ a0 :: a1 :: a2 :: a3 :: a4 :: a5 :: a6 :: a7 :: tail).length < ipHdr c) := by
    rw [hl]
    simp [ipHdr, ip6Hdr, hv]
    omega
  unfold protoResp parse6
  rw [if_neg hlt]
  simp only [hv, if_true]
  unfold protoResp6
  rw [rd_append_left 6 (by omega), ipv6Payload_H hH hpl, trafficClass_ok _ (by rw [hl]; omega),
    rdSlice_append_left 24 16 (by omega), getD_append_left 0 (by omega),
    getD_append_left 1 (by omega)]
  cases c.proto with
  | icmp => simp [extractEchoRequest_cons]
  | udp => simp [extractUdp_cons, udpHasMagic_cons, magic_length]
  | tcp =>
    simp [extractTcp6_cons]
    -- left: the test for a short TCP header, inside the bind on one side and outside on the other
    split
    · split <;> rfl
    · rfl

theorem ty_ne (v6 : Bool) : tyDestUnreachable v6 ≠ tyTimeExceeded v6 ∧
    tyEchoReply v6 ≠ tyTimeExceeded v6 ∧ tyEchoReply v6 ≠ tyDestUnreachable v6 := by
  cases v6 <;> decide

/-- the responder is the outer source address (IPv4) / the address the socket reports (IPv6) -/
theorem recvIcmp_deliver (c : ChanCfg) (hc : c.AddrOk) (o : Outer4) (responder icmp src : Buf)
    (hr : responder.length = if c.v6 then 16 else 4) (h8 : 8 ≤ icmp.length)
    (hsrc : c.v6 = true → src = responder) :
    recvIcmp c (deliver c o responder icmp) src = extractProbeResp c icmp responder := by
  unfold recvIcmp deliver
  cases hv : c.v6
  · simp only [hv, Bool.false_eq_true, if_false] at hr ⊢
    have h4 := (addr4 c hc hv).1
    generalize hO : [0x45, o.tos, o.l0, o.l1, o.i0, o.i1, o.f0, o.f1, o.ttl, 1, o.c0, o.c1] = O
    have hO12 : O.length = 12 := by
      rw [← hO]
      rfl
    have h20 : (O ++ responder ++ c.src).length = 20 := by
      simp only [List.length_append, hO12, hr, h4]
    have hl : (O ++ responder ++ c.src ++ icmp).length = 20 + icmp.length := by
      rw [List.length_append, h20]
    have ht : ((O ++ responder ++ c.src ++ icmp).drop 12).take 4 = responder := by
      rw [List.append_assoc, List.append_assoc, List.drop_left' hO12,
        List.take_left' hr]
    unfold recvIcmp4
    rw [if_neg (by rw [hl]; simp), rdSlice_ok _ 12 4 (by rw [hl]; omega),
      ipv4Payload_ihl5 _ (by rw [← hO]; rfl) (by rw [hl]; omega), List.drop_left' h20, ht]
    simp only [R.bind_ok]
    rw [if_neg (by simp; omega)]
  · simp only [hv, if_true] at hr ⊢
    obtain rfl := hsrc hv
    unfold recvIcmp6
    have hne : ¬ (src.isEmpty = true) := by
      intro h
      rw [List.isEmpty_iff] at h
      rw [h] at hr
      simp at hr
    rw [if_neg (by simp; omega), if_neg hne, if_neg (by omega)]

theorem recvIcmp_error (c : ChanCfg) (hc : c.AddrOk) (te : Bool) (o : Outer4) (h : IcmpHdr)
    (responder src : Buf) (hr : responder.length = if c.v6 then 16 else 4)
    (hsrc : c.v6 = true → src = responder) (b : Body) (q : Buf) (hb : BodyOk c.v6 q b)
    (hty : h.type = if te then tyTimeExceeded c.v6 else tyDestUnreachable c.v6)
    (hcode : te = true → h.code = 0) (N : Nat) (hN : N ≤ 128) :
    ∃ q' exts, recvIcmp c (deliver c o responder (icmpMessage c.v6 h b q)) src =
        mkResp (if te then .timeExceeded 0 else .destUnreachable h.code.toNat) responder exts <$>
          protoResp c q' ∧
      q.take N <+: q' := by
  obtain ⟨rest, hm, -⟩ := icmpMessage_head c.v6 h b q
  obtain ⟨q', exts, hx, hp⟩ := extract_prefix c.v6 te c.extEnabled h b q hb N hN
  refine ⟨q', exts, ?_, hp⟩
  rw [recvIcmp_deliver c hc o responder _ src hr (icmpMessage_length c.v6 h b q) hsrc]
  unfold extractProbeResp
  have h0 : rd (icmpMessage c.v6 h b q) 0 = .ok h.type := by
    rw [hm]
    rfl
  have h1 : rd (icmpMessage c.v6 h b q) 1 = .ok h.code := by
    rw [hm]
    rfl
  rw [h0, h1]
  simp only [R.bind_ok, codeIsFixed]
  cases te with
  | true =>
    have hc0 := hcode rfl
    simp only [if_true] at hty
    simp only [hty, if_true, hc0, hx, R.bind_ok]
    have : (0 : UInt8).toNat = 0 := rfl
    simp only [this, if_true]
    cases protoResp c q' <;> simp [mkResp]
  | false =>
    simp only [Bool.false_eq_true, if_false] at hty
    simp only [hty, if_neg (ty_ne c.v6).1, if_true, hx, R.bind_ok, Bool.false_eq_true, if_false]
    cases protoResp c q' <;> simp [mkResp]

theorem quote4_eq {m : Mut4} {v tos l0 l1 i0 i1 f0 f1 ttl pr c0 c1 : UInt8} {src dst : Buf}
    (hs : src.length = 4) (hd : dst.length = 4) {a0 a1 a2 a3 a4 a5 a6 a7 : UInt8} {rest : Buf}
    {n : Nat} :
    quote4 m ([v, tos, l0, l1, i0, i1, f0, f1, ttl, pr, c0, c1] ++ src ++ dst ++
      (a0 :: a1 :: a2 :: a3 :: a4 :: a5 :: a6 :: a7 :: rest)) n =
    [v, m.tos, m.len0, m.len1, i0, i1, f0, f1, m.ttl, pr, m.ck0, m.ck1] ++ src ++ dst ++
      (a0 :: a1 :: a2 :: a3 :: a4 :: a5 :: a6 :: a7 :: rest.take n) := by
  have h20 : ([v, tos, l0, l1, i0, i1, f0, f1, ttl, pr, c0, c1] ++ src ++ dst).length = 20 := by
    simp only [List.length_append, hs, hd]; rfl
  unfold quote4
  rw [List.take_left' h20, show (28 : Nat) = 20 + 8 from rfl, ← List.drop_drop,
    List.drop_left' h20]
  simp [mutHdr4]

theorem quote6_eq {m : Mut6} {b0 b1 b2 b3 p0 p1 nh hl : UInt8} {qsrc qdst : Buf}
    (hqs : qsrc.length = 16) (hqd : qdst.length = 16) {a0 a1 a2 a3 a4 a5 a6 a7 : UInt8}
    {rest : Buf} {n : Nat} :
    quote6 m ([b0, b1, b2, b3, p0, p1, nh, hl] ++ qsrc ++ qdst ++
      (a0 :: a1 :: a2 :: a3 :: a4 :: a5 :: a6 :: a7 :: rest)) n =
    [UInt8.ofNat (96 + m.tc.toNat / 16), UInt8.ofNat (m.tc.toNat % 16 * 16 + b1.toNat % 16),
      b2, b3, p0, p1, nh, m.hops] ++ qsrc ++ qdst ++
      (a0 :: a1 :: a2 :: a3 :: a4 :: a5 :: a6 :: a7 :: rest.take n) := by
  have h40 : ([b0, b1, b2, b3, p0, p1, nh, hl] ++ qsrc ++ qdst).length = 40 := by
    simp only [List.length_append, hqs, hqd]; rfl
  unfold quote6
  rw [List.take_left' h40, show (48 : Nat) = 40 + 8 from rfl, ← List.drop_drop,
    List.drop_left' h40]
  simp [mutHdr6]

theorem tc_roundtrip (tc b1 : UInt8) :
    (UInt8.ofNat (96 + tc.toNat / 16)).toNat % 16 * 16 +
      (UInt8.ofNat (tc.toNat % 16 * 16 + b1.toNat % 16)).toNat / 16 = tc.toNat := by
  have := UInt8.toNat_lt tc
  simp only [UInt8.toNat_ofNat']; omega

end TV.Wire
