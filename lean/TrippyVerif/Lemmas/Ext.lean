import TrippyVerif.Spec.Rfc4884
/-!
Lemmas for property C14 (ICMP multi-part extensions): what `split`, the object and member
iterators and `Extensions::try_from` do on arbitrary octets, and what they do on the messages the
RFC 4884 encoder builds.
-/
namespace TV.Ext
open TV.Rfc4884

def lengthOctet (fam : Bool) (icmp : Buf) : UInt8 := icmp.getD (lengthOffset fam) 0

/-- `mid`: what lies between the end of the quoted datagram and octet 128 -/
theorem split_cases (n : Nat) (p : Buf) :
    split n p = (p, none) ∨
    ∃ a mid e, split n p = (a, some e) ∧ p = a ++ mid ++ e ∧ 4 ≤ e.length := by
  unfold split origMin minHeader
  by_cases h1 : n > p.length
  · exact .inl (if_pos h1)
  by_cases h2 : p.length > 128
  · rw [if_neg h1, if_pos h2]
    by_cases h3 : n > 128
    · rw [if_pos h3]
      by_cases h4 : (p.drop n).length ≥ 4
      · rw [if_pos h4]
        exact .inr ⟨_, [], _, rfl, by simp, h4⟩
      · exact .inl (if_neg h4)
    · rw [if_neg h3]
      by_cases h4 : (p.drop 128).length ≥ 4
      · by_cases h5 : n > 0
        · rw [if_pos h5, if_pos h4]
          exact .inr ⟨_, (p.take 128).drop n, _, rfl, by simp, h4⟩
        · rw [if_neg h5, if_pos h4]
          exact .inr ⟨_, [], _, rfl, by simp, h4⟩
      · rw [if_neg h4, if_neg h4]
        exact .inl (ite_self _)
  · rw [if_neg h1, if_neg h2]
    exact .inl rfl

theorem objectsFrom_mem (rest o : Buf) (h : o ∈ objectsFrom rest) :
    o <:+ rest ∧ 4 ≤ o.length ∧ 4 ≤ be16At o ∧ be16At o ≤ o.length := by
  fun_induction objectsFrom rest with
  | case1 rest h1 => simp at h
  | case2 rest h1 h2 => simp at h
  | case3 rest h1 h2 ih =>
    rcases List.mem_cons.mp h with h | h
    · subst h
      exact ⟨List.suffix_refl _, by omega, by omega, by omega⟩
    · have := ih h
      exact ⟨this.1.trans (List.drop_suffix _ _), this.2⟩

theorem objectsFrom_count (rest : Buf) : 4 * (objectsFrom rest).length ≤ rest.length := by
  fun_induction objectsFrom rest with
  | case1 rest h1 => simp
  | case2 rest h1 h2 => simp
  | case3 rest h1 h2 ih =>
    simp only [List.length_cons, List.length_drop] at *
    omega

theorem objects_mem (ext o : Buf) (h : o ∈ objects ext) :
    o <:+ ext ∧ 4 ≤ o.length ∧ 4 ≤ be16At o ∧ be16At o ≤ o.length := by
  have := objectsFrom_mem _ _ h
  exact ⟨this.1.trans (List.drop_suffix _ _), this.2⟩

theorem objects_count (ext : Buf) : 4 * (objects ext).length ≤ ext.length - 4 := by
  have := objectsFrom_count (ext.drop 4)
  simpa [objects] using this

theorem objects_length (ext : Buf) : 4 * (objects ext).length + 4 ≤ ext.length ∨ objects ext = [] := by
  have := objects_count ext
  by_cases h : ext.length < 4
  · exact .inr (List.eq_nil_of_length_eq_zero (by omega))
  · exact .inl (by omega)

theorem members_mem (s m : Buf) (h : m ∈ members s) : m <:+ s ∧ 4 ≤ m.length := by
  fun_induction members s with
  | case1 a b c d t ih =>
    rcases List.mem_cons.mp h with h | h
    · subst h; exact ⟨List.suffix_refl _, by simp⟩
    · split at h
      · simp at h
      · have := ih h
        refine ⟨this.1.trans ?_, this.2⟩
        exact ⟨[a,b,c,d], rfl⟩
  | case2 s hne => simp at h

theorem members_count (s : Buf) : 4 * (members s).length ≤ s.length := by
  fun_induction members s with
  | case1 a b c d t ih =>
    simp only [List.length_cons]
    split
    · simp
    · omega
  | case2 s hne => simp

/-- the `new_view` filters of `MplsLabelStack::from` and `Extensions::try_from` drop nothing: the
iterators only yield views of at least 4 octets -/
theorem filter_members (s : Buf) :
    (members s).filter (fun m => decide (4 ≤ m.length)) = members s :=
  List.filter_eq_self.mpr fun m hm => by simpa using (members_mem s m hm).2

theorem filter_objects (ext : Buf) :
    (objects ext).filter (fun o => decide (4 ≤ o.length)) = objects ext :=
  List.filter_eq_self.mpr fun o ho => by simpa using (objects_mem ext o ho).2.1

theorem exists_cons4 (o : Buf) (h : 4 ≤ o.length) : ∃ a b c d t, o = a :: b :: c :: d :: t := by
  match o, h with
  | a :: b :: c :: d :: t, _ => exact ⟨a, b, c, d, t, rfl⟩

theorem mapR_ok {α β : Type} (f : α → R β) (l : List α) (h : ∀ x ∈ l, ∃ y, f x = .ok y) :
    ∃ ys, mapR f l = .ok ys ∧ ys.length = l.length := by
  induction l with
  | nil => exact ⟨[], rfl, rfl⟩
  | cons x xs ih =>
    obtain ⟨y, hy⟩ := h x (by simp)
    obtain ⟨ys, hys, hl⟩ := ih (fun z hz => h z (by simp [hz]))
    refine ⟨y :: ys, ?_, by simp [hl]⟩
    unfold mapR
    rw [hy, hys]
    rfl

theorem memberOf_cons4 (a b c d : UInt8) (t : Buf) :
    memberOf (a :: b :: c :: d :: t) =
      .ok ⟨(a.toNat * 65536 + b.toNat * 256 + c.toNat) / 16, c.toNat / 2 % 8, c.toNat % 2, d.toNat⟩ := by
  simp [memberOf, getLabel, getExp, getBos, getTtl, rd]

theorem memberOf_ok (m : Buf) (h : 4 ≤ m.length) : ∃ x, memberOf m = .ok x := by
  obtain ⟨a, b, c, d, t, rfl⟩ := exists_cons4 m h
  exact ⟨_, memberOf_cons4 a b c d t⟩

theorem mplsOf_ok (s : Buf) : ∃ ms, mplsOf s = .ok ms ∧ 4 * ms.length ≤ s.length := by
  unfold mplsOf
  rw [filter_members]
  obtain ⟨ys, hys, hl⟩ := mapR_ok memberOf (members s)
    fun m hm => memberOf_ok m (members_mem s m hm).2
  have := members_count s
  exact ⟨ys, hys, by omega⟩

theorem be16At_cons (a b : UInt8) (t : Buf) : be16At (a :: b :: t) = a.toNat * 256 + b.toNat := by
  simp [be16At]

theorem objPayload_cons4 (a b c d : UInt8) (t : Buf) :
    objPayload (a :: b :: c :: d :: t) =
      .ok (((a :: b :: c :: d :: t).take
        (max 4 (min (a.toNat * 256 + b.toNat) (t.length + 4)))).drop 4) := by
  simp [objPayload, objLength, rd]

theorem objPayload_ok (o : Buf) (h : 4 ≤ o.length) :
    objPayload o = .ok ((o.take (max 4 (min (be16At o) o.length))).drop 4) := by
  obtain ⟨a, b, c, d, t, rfl⟩ := exists_cons4 o h
  rw [objPayload_cons4, be16At_cons]
  simp

theorem objectOf_ok (o : Buf) (h1 : 4 ≤ o.length) : ∃ x, objectOf o = .ok x := by
  obtain ⟨p, hp⟩ : ∃ p, objPayload o = .ok p := ⟨_, objPayload_ok o h1⟩
  obtain ⟨ms, hms, _⟩ := mplsOf_ok p
  obtain ⟨a, b, c, d, t, rfl⟩ := exists_cons4 o h1
  unfold objectOf
  simp only [rd, List.getElem?_cons_succ, List.getElem?_cons_zero, R.bind_ok, hp, hms, R.pure_eq]
  split
  · split
    · exact ⟨_, rfl⟩
    · exact ⟨_, rfl⟩
  · exact ⟨_, rfl⟩

theorem extensionsTryFrom_eq (ext : Buf) (h : 4 ≤ ext.length) :
    extensionsTryFrom ext =
      if (ext.getD 0 0).toNat / 16 ≠ 2 then .ok [] else mapR objectOf (objects ext) := by
  obtain ⟨a, b, c, d, t, rfl⟩ := exists_cons4 ext h
  unfold extensionsTryFrom
  rw [if_neg (by simp), filter_objects]
  rfl

theorem extensionsTryFrom_ok (ext : Buf) (h : 4 ≤ ext.length) :
    ∃ xs, extensionsTryFrom ext = .ok xs ∧ 4 * xs.length ≤ ext.length - 4 := by
  rw [extensionsTryFrom_eq ext h]
  split
  · exact ⟨[], rfl, by simp⟩
  · obtain ⟨ys, hys, hl⟩ := mapR_ok objectOf (objects ext)
      fun o ho => objectOf_ok o (objects_mem _ o ho).2.1
    have := objects_count ext
    exact ⟨ys, hys, by omega⟩

theorem extensionsTryFrom_short (ext : Buf) (h : ext.length < 4) :
    extensionsTryFrom ext = .err .pktShort := by
  simp [extensionsTryFrom, h]

theorem extensionsTryFrom_ne_panic (ext : Buf) : extensionsTryFrom ext ≠ .panic := by
  by_cases h : ext.length < 4
  · rw [extensionsTryFrom_short ext h]; simp
  · obtain ⟨xs, hxs, _⟩ := extensionsTryFrom_ok ext (by omega)
    rw [hxs]; simp

theorem unitOf_cases (fam : Bool) : unitOf fam = if fam then 8 else 4 := rfl

theorem payloadRaw_ok (icmp : Buf) (h : 8 ≤ icmp.length) : payloadRaw icmp = .ok (icmp.drop 8) := by
  have : ¬ icmp.length < 8 := by omega
  simp [payloadRaw, this]

theorem splitWith_eq (fixed fam : Bool) (icmp : Buf) (h : 8 ≤ icmp.length) :
    splitPayloadExtensionWith fixed fam icmp =
      (scaleLen fixed fam (lengthOctet fam icmp) >>= fun n => .ok (split n (icmp.drop 8))) := by
  have : lengthOffset fam < icmp.length := by
    unfold lengthOffset
    split <;> omega
  simp [splitPayloadExtensionWith, rd, lengthOctet, List.getD, this, payloadRaw_ok icmp h]

theorem splitWith_fixed (fam : Bool) (icmp : Buf) (h : 8 ≤ icmp.length) :
    splitPayloadExtensionWith true fam icmp =
      .ok (split ((lengthOctet fam icmp).toNat * unitOf fam) (icmp.drop 8)) := by
  simp [splitWith_eq true fam icmp h, scaleLen]

theorem payload_of_split {fixed fam : Bool} {icmp : Buf} {r : Buf × Option Buf}
    (h : splitPayloadExtensionWith fixed fam icmp = .ok r) : payload fixed fam icmp = .ok r.1 := by
  unfold payload
  rw [h]
  rfl

theorem extension_of_split {fixed fam : Bool} {icmp : Buf} {r : Buf × Option Buf}
    (h : splitPayloadExtensionWith fixed fam icmp = .ok r) : extension fixed fam icmp = .ok r.2 := by
  unfold extension
  rw [h]
  rfl

/-- the two ways a built message is cut: at the length attribute (`n = a.length ≥ 128`) or, for
`n = 0`, after 128 octets -/
theorem split_append (n : Nat) (a e : Buf) (he : 4 ≤ e.length) (ha : 128 ≤ a.length)
    (hn : n = a.length ∨ n = 0 ∧ a.length = 128) :
    split n (a ++ e) = (a, some e) := by
  have hd : List.drop a.length (a ++ e) = e := by simp
  have ht : List.take a.length (a ++ e) = a := by simp
  have ht2 : List.take a.length a = a := by simp
  have hl : (a ++ e).length = a.length + e.length := by simp
  unfold split origMin minHeader
  rw [hl, if_neg (by omega), if_pos (by omega)]
  rcases hn with rfl | ⟨rfl, h0⟩
  · by_cases h3 : a.length > 128
    · rw [if_pos h3, hd, ht, if_pos he]
    · have h8 : a.length = 128 := by omega
      rw [if_neg h3, if_pos (by omega), ← h8, hd, ht, ht2, if_pos he]
  · rw [if_neg (by omega), if_neg (by omega), ← h0, hd, ht, if_pos he]

theorem padTo_length (k : Nat) (b : Buf) (h : b.length ≤ k) : (padTo k b).length = k := by
  rw [padTo, List.length_append, List.length_replicate]
  omega

theorem paddedLen_spec (fam : Bool) (n : Nat) :
    128 ≤ paddedLen fam n ∧ n ≤ paddedLen fam n ∧
      paddedLen fam n % unit fam = 0 ∧ paddedLen fam n < n + 128 + unit fam := by
  unfold paddedLen unit
  -- `(n + u - 1) / u * u` rounds `n` up to a multiple of `u`, which 128 is too; `u` is a literal in either case
  cases fam <;> simp <;> omega

theorem paddedLen_ge (fam : Bool) (n : Nat) : 128 ≤ paddedLen fam n := (paddedLen_spec fam n).1

theorem le_paddedLen (fam : Bool) (n : Nat) : n ≤ paddedLen fam n := (paddedLen_spec fam n).2.1

/-- the words the encoder counts in (RFC 4884 §4) are the code's multiplier -/
theorem unit_eq_unitOf (fam : Bool) : unit fam = unitOf fam := rfl

theorem paddedLen_div_mul (fam : Bool) (n : Nat) :
    paddedLen fam n / unit fam * unitOf fam = paddedLen fam n := by
  obtain ⟨_, _, hmod, _⟩ := paddedLen_spec fam n
  rw [← unit_eq_unitOf]
  exact Nat.div_mul_cancel (Nat.dvd_of_mod_eq_zero hmod)

theorem padOrig_length (fam : Bool) (mode : Mode) (orig : Buf) :
    (padOrig fam mode orig).length = match mode with
      | .compliant => paddedLen fam orig.length
      | .legacy => 128 := by
  cases mode
  · exact padTo_length _ _ (le_paddedLen fam _)
  · exact padTo_length _ _ (by rw [List.length_take]; omega)

theorem buildIcmp_length (fam : Bool) (h : IcmpHdr) (mode : Mode) (orig ext : Buf) :
    8 ≤ (buildIcmp fam h mode orig ext).length := by
  unfold buildIcmp icmpHeaderBytes
  cases fam <;> simp

theorem buildIcmp_lengthOctet (fam : Bool) (h : IcmpHdr) (mode : Mode) (orig ext : Buf) :
    lengthOctet fam (buildIcmp fam h mode orig ext) = UInt8.ofNat (lengthAttr fam mode orig) := by
  unfold buildIcmp icmpHeaderBytes lengthOctet lengthOffset buildBody
  cases fam <;> simp

theorem buildIcmp_drop (fam : Bool) (h : IcmpHdr) (mode : Mode) (orig ext : Buf) :
    (buildIcmp fam h mode orig ext).drop 8 = padOrig fam mode orig ++ ext := by
  unfold buildIcmp icmpHeaderBytes buildBody
  cases fam <;> simp

theorem split_built (fam : Bool) (mode : Mode) (orig ext : Buf) (hext : 4 ≤ ext.length)
    (hfit : lengthAttr fam mode orig ≤ 255) :
    split ((UInt8.ofNat (lengthAttr fam mode orig)).toNat * unitOf fam) (padOrig fam mode orig ++ ext)
      = (padOrig fam mode orig, some ext) := by
  rw [UInt8.toNat_ofNat', Nat.mod_eq_of_lt (by omega)]
  cases mode
  · have hl : (padOrig fam .compliant orig).length = paddedLen fam orig.length :=
      padOrig_length fam .compliant orig
    rw [lengthAttr, paddedLen_div_mul]
    exact split_append _ _ _ hext (hl ▸ paddedLen_ge fam _) (Or.inl hl.symm)
  · have hl : (padOrig fam .legacy orig).length = 128 := padOrig_length fam .legacy orig
    rw [lengthAttr, Nat.zero_mul]
    exact split_append 0 _ _ hext (Nat.le_of_eq hl.symm) (Or.inr ⟨rfl, hl⟩)

theorem splitWith_built (fixed fam : Bool) (h : IcmpHdr) (mode : Mode) (orig ext : Buf)
    (hext : 4 ≤ ext.length) (hfit : lengthAttr fam mode orig ≤ 255) :
    splitPayloadExtensionWith fixed fam (buildIcmp fam h mode orig ext) =
      (scaleLen fixed fam (UInt8.ofNat (lengthAttr fam mode orig)) >>= fun _ =>
        .ok (padOrig fam mode orig, some ext)) := by
  rw [splitWith_eq fixed fam _ (buildIcmp_length ..), buildIcmp_lengthOctet, buildIcmp_drop]
  have hs := split_built fam mode orig ext hext hfit
  unfold scaleLen
  split
  · rw [R.bind_ok, R.bind_ok, hs]
  · split
    · rfl
    · rw [R.bind_ok, R.bind_ok, hs]

/-- 20 + 3 + 1 bits packed into three octets read back -/
theorem label_unpack {l e s : Nat} (h2 : e < 8) (h3 : s < 2) :
    (l / 4096 * 65536 + l / 16 % 256 * 256 + (l % 16 * 16 + e * 2 + s)) / 16 = l ∧
    (l % 16 * 16 + e * 2 + s) / 2 % 8 = e ∧ (l % 16 * 16 + e * 2 + s) % 2 = s := by
  omega

theorem memberOf_encode (m : MplsMember) (hm : memberOk m) (t : Buf) :
    memberOf (encodeMember m ++ t) = .ok m := by
  obtain ⟨h1, h2, h3, h4⟩ := hm
  obtain ⟨l, e, s, ttl⟩ := m
  simp only at h1 h2 h3 h4
  -- each encoded octet is below 256, so `UInt8.ofNat` loses nothing (octet 1 is a `% 256` already:
  -- `Nat.mod_mod`); then `label_unpack`
  have e0 : l / 4096 % 2 ^ 8 = l / 4096 := Nat.mod_eq_of_lt (by omega)
  have e2 : (l % 16 * 16 + e * 2 + s) % 2 ^ 8 = l % 16 * 16 + e * 2 + s :=
    Nat.mod_eq_of_lt (by omega)
  have e3 : ttl % 2 ^ 8 = ttl := Nat.mod_eq_of_lt h4
  obtain ⟨u1, u2, u3⟩ := label_unpack (l := l) h2 h3
  simp only [encodeMember, List.cons_append, List.nil_append, memberOf_cons4, UInt8.toNat_ofNat',
    e0, e2, e3, u1, u2, u3, Nat.reducePow, Nat.mod_mod]

theorem mplsOf_cons4 (a b c d : UInt8) (t : Buf) :
    mplsOf (a :: b :: c :: d :: t) = (do
      let y ← memberOf (a :: b :: c :: d :: t)
      let ys ← (if y.bos = 1 then R.ok [] else mplsOf t)
      R.ok (y :: ys)) := by
  unfold mplsOf
  rw [filter_members, filter_members, members]
  simp only [mapR, memberOf_cons4, R.bind_ok, R.pure_eq]
  split <;> rfl

theorem mplsOf_nil : mplsOf [] = .ok [] := by simp [mplsOf, members, mapR]

theorem encodeStack_nil : encodeStack [] = [] := rfl

theorem encodeStack_cons (m : MplsMember) (ms : List MplsMember) :
    encodeStack (m :: ms) = encodeMember m ++ encodeStack ms :=
  List.flatMap_cons

theorem mplsOf_encode (ms : List MplsMember) (hok : ∀ m ∈ ms, memberOk m)
    (hbos : ∀ m ∈ ms.dropLast, m.bos = 0) : mplsOf (encodeStack ms) = .ok ms := by
  induction ms with
  | nil => exact mplsOf_nil
  | cons m rest ih =>
    obtain ⟨hm, hrest⟩ := List.forall_mem_cons.mp hok
    have hmo := memberOf_encode m hm (encodeStack rest)
    rw [encodeStack_cons]
    simp only [encodeMember, List.cons_append, List.nil_append] at hmo ⊢
    rw [mplsOf_cons4, hmo, R.bind_ok]
    cases rest with
    | nil =>
      rw [encodeStack_nil, mplsOf_nil, ite_self]
      rfl
    | cons r rs =>
      have hb0 : m.bos = 0 := hbos m (by simp [List.dropLast])
      rw [if_neg (by omega), ih hrest (fun x hx => hbos x (by simp [List.dropLast, hx]))]
      rfl

theorem encodeStack_length (ms : List MplsMember) : (encodeStack ms).length = 4 * ms.length := by
  induction ms with
  | nil => rfl
  | cons m rest ih =>
    have : (encodeMember m).length = 4 := rfl
    rw [encodeStack_cons, List.length_append, ih, List.length_cons, this]
    omega

theorem encodeObject_length (c s : Nat) (p : Buf) : (encodeObject c s p).length = 4 + p.length := by
  rw [encodeObject, List.length_append, List.length_cons, List.length_cons, List.length_cons,
    List.length_cons, List.length_nil]

theorem be16At_encodeObject (c s : Nat) (p tail : Buf) (hp : p.length ≤ 65531) :
    be16At (encodeObject c s p ++ tail) = (encodeObject c s p).length := by
  simp only [encodeObject, List.cons_append, be16At_cons, UInt8.toNat_ofNat', List.length_cons,
    List.nil_append]
  omega

theorem objectsFrom_encodeObject (c s : Nat) (p tail : Buf) (hp : p.length ≤ 65531) :
    objectsFrom (encodeObject c s p ++ tail) =
      (encodeObject c s p ++ tail) :: objectsFrom tail := by
  have hl := encodeObject_length c s p
  rw [objectsFrom, be16At_encodeObject c s p tail hp, List.length_append, if_neg (by omega),
    if_neg (by omega), List.drop_left]

theorem objPayload_encodeObject (c s : Nat) (p tail : Buf) (hp : p.length ≤ 65531) :
    objPayload (encodeObject c s p ++ tail) = .ok p := by
  have hl := encodeObject_length c s p
  rw [objPayload_ok _ (by rw [List.length_append]; omega), be16At_encodeObject c s p tail hp,
    List.length_append, Nat.min_eq_left (by omega), Nat.max_eq_right (by omega), List.take_left]
  rfl

/-- class and C-Type are stored in one octet each -/
theorem objectOf_encodeObject (c s : Nat) (p tail : Buf) (hp : p.length ≤ 65531) :
    objectOf (encodeObject c s p ++ tail) =
      if c % 256 = 1 then
        (if p.length < 4 then .ok (.mpls []) else (mplsOf p >>= fun ms => .ok (.mpls ms)))
      else .ok (.unknown (c % 256) (s % 256) p) := by
  unfold objectOf
  rw [objPayload_encodeObject c s p tail hp]
  simp only [encodeObject, List.cons_append, List.nil_append, rd, List.getElem?_cons_succ,
    List.getElem?_cons_zero, R.bind_ok, UInt8.toNat_ofNat', R.pure_eq]

theorem objectOf_class1 (s : Nat) (ms : List MplsMember) (tail : Buf) (h : (Obj.mpls ms).wf) :
    objectOf (encodeObject 1 s (encodeStack ms) ++ tail) = .ok (.mpls ms) := by
  obtain ⟨hlen, hok, hbos⟩ := h
  have hsl := encodeStack_length ms
  rw [objectOf_encodeObject 1 s _ tail (by omega), if_pos rfl, mplsOf_encode ms hok hbos]
  cases ms with
  | nil => rfl
  | cons m rest =>
    rw [if_neg (by rw [hsl, List.length_cons]; omega)]
    rfl

theorem objectOf_encode (o : Obj) (tail : Buf) (h : o.wf) :
    objectOf (o.encode ++ tail) = .ok o.expected := by
  cases o with
  | mpls ms => exact objectOf_class1 1 ms tail h
  | other c s p =>
    rw [Obj.encode, objectOf_encodeObject c s p tail h.2.2.2, Nat.mod_eq_of_lt h.1,
      Nat.mod_eq_of_lt h.2.2.1, if_neg h.2.1]
    rfl

theorem objectsFrom_encode (o : Obj) (tail : Buf) (h : o.wf) :
    objectsFrom (o.encode ++ tail) = (o.encode ++ tail) :: objectsFrom tail := by
  cases o with
  | mpls ms =>
    have := h.1
    exact objectsFrom_encodeObject 1 1 _ tail (by rw [encodeStack_length]; omega)
  | other c s p => exact objectsFrom_encodeObject c s p tail h.2.2.2

theorem encodeObjs_cons (o : Obj) (os : List Obj) :
    encodeObjs (o :: os) = o.encode ++ encodeObjs os := by
  rw [encodeObjs, List.map_cons, List.flatten_cons]
  rfl

theorem mapR_objects_encode (objs : List Obj) (h : ∀ o ∈ objs, o.wf) :
    mapR objectOf (objectsFrom (encodeObjs objs)) = .ok (objs.map Obj.expected) := by
  induction objs with
  | nil => simp [encodeObjs, objectsFrom, mapR]
  | cons o os ih =>
    obtain ⟨ho, hos⟩ := List.forall_mem_cons.mp h
    rw [encodeObjs_cons, objectsFrom_encode o _ ho, mapR, objectOf_encode o _ ho, ih hos]
    rfl

theorem extensionsTryFrom_encode (ckHi ckLo : UInt8) (objs : List Obj) (h : ∀ o ∈ objs, o.wf) :
    extensionsTryFrom (encodeExt ckHi ckLo objs) = .ok (objs.map Obj.expected) := by
  rw [extensionsTryFrom_eq _ (by simp [encodeExt, extHeader]),
    if_neg (by simp [encodeExt, extHeader])]
  exact mapR_objects_encode objs h

/-- what `extract_probe_resp` hands to the IP parser: the whole ICMP payload (Time Exceeded with
extension parsing off) or the first part of the RFC 4884 split -/
theorem tracerExtract_ok (fam te en : Bool) (icmp : Buf) (h8 : 8 ≤ icmp.length) :
    ∃ exts, tracerExtract true fam te en icmp =
      .ok (if te && !en then icmp.drop 8
           else (split ((lengthOctet fam icmp).toNat * unitOf fam) (icmp.drop 8)).1, exts) := by
  unfold tracerExtract
  have hs := splitWith_fixed fam icmp h8
  rw [payload_of_split hs, extension_of_split hs, payloadRaw_ok _ h8]
  rcases split_cases ((lengthOctet fam icmp).toNat * unitOf fam) (icmp.drop 8) with
    hs | ⟨a, mid, e, hs, -, he⟩
  · rw [hs]
    cases te <;> cases en <;> simp
  · obtain ⟨xs, hxs, _⟩ := extensionsTryFrom_ok e he
    rw [hs]
    cases te <;> cases en <;> simp [hxs]

theorem tracerExtract_ne_panic (fam te enabled : Bool) (icmp : Buf) (h : 8 ≤ icmp.length) :
    tracerExtract true fam te enabled icmp ≠ .panic := by
  obtain ⟨_, he⟩ := tracerExtract_ok fam te enabled icmp h
  rw [he]
  nofun

theorem split_zero (q : Buf) : (split 0 q).1 = q ∨ (split 0 q).1 = q.take 128 := by
  unfold split origMin
  simp only [Nat.not_lt_zero, if_false]
  split
  · split
    · exact .inr rfl
    · exact .inl rfl
  · exact .inl rfl

end TV.Ext
